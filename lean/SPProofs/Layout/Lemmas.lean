/-
  For C14: sums over the factor list (`sumIf`), the applicable trials of a range (`Pipeline.applicable`) as
  `appliedCount` numbers them, the two decoding walks, the shape of a factor's variables (`encodeVar_eq`).
-/
import SPModel.Layout

namespace SPModel.Layout

def sumIf (p : LFactor → Bool) (g : LFactor → Nat) : List LFactor → Nat
  | [] => 0
  | f :: r => (if p f then g f else 0) + sumIf p g r

@[simp] theorem sumIf_nil (p g) : sumIf p g [] = 0 := rfl
@[simp] theorem sumIf_cons (p g f r) :
    sumIf p g (f :: r) = (if p f then g f else 0) + sumIf p g r := rfl

theorem foldl_filter_eq_sumIf (p : LFactor → Bool) (g : LFactor → Nat) (l : List LFactor) (a : Nat) :
    (l.filter p).foldl (fun s f => s + g f) a = a + sumIf p g l := by
  induction l generalizing a with
  | nil => rfl
  | cons x xs ih => cases hp : p x <;> simp [hp, ih, Nat.add_assoc]

theorem sumIf_take_add_le (p : LFactor → Bool) (g : LFactor → Nat) (fs : List LFactor) (i : Nat)
    (f : LFactor) (h : fs[i]? = some f) (hp : p f = true) :
    sumIf p g (fs.take i) + g f ≤ sumIf p g fs := by
  induction fs generalizing i with
  | nil => cases h
  | cons x xs ih =>
    cases i with
    | zero =>
      cases h
      simp [hp]
    | succ i =>
      rw [List.take_succ_cons, sumIf_cons, sumIf_cons, Nat.add_assoc]
      exact Nat.add_le_add_left (ih i h) _

theorem sumIf_exists_slot (p : LFactor → Bool) (g : LFactor → Nat) (fs : List LFactor) (k : Nat)
    (hk : k < sumIf p g fs) :
    ∃ i f r, fs[i]? = some f ∧ p f = true ∧ r < g f ∧ k = sumIf p g (fs.take i) + r := by
  induction fs generalizing k with
  | nil => simp at hk
  | cons x xs ih =>
    rw [sumIf_cons] at hk
    by_cases hp : p x = true
    · rw [if_pos hp] at hk
      by_cases hlt : k < g x
      · exact ⟨0, x, k, rfl, hp, hlt, (Nat.zero_add k).symm⟩
      · obtain ⟨k', rfl⟩ := Nat.exists_eq_add_of_le (Nat.le_of_not_lt hlt)
        obtain ⟨i, f, r, h1, h2, h3, rfl⟩ := ih k' (Nat.lt_of_add_lt_add_left hk)
        exact ⟨i + 1, f, r, h1, h2, h3, by rw [List.take_succ_cons, sumIf_cons, if_pos hp, Nat.add_assoc]⟩
    · rw [if_neg hp, Nat.zero_add] at hk
      obtain ⟨i, f, r, h1, h2, h3, rfl⟩ := ih k hk
      exact ⟨i + 1, f, r, h1, h2, h3, by rw [List.take_succ_cons, sumIf_cons, if_neg hp, Nat.zero_add]⟩

@[simp] theorem appliedCount_zero (f : LFactor) : appliedCount f 0 = 0 := by
  simp [appliedCount]

theorem appliedCount_succ (f : LFactor) (n : Nat) :
    appliedCount f (n + 1) = appliedCount f n + (if appliesTrial f (n + 1) then 1 else 0) := by
  unfold appliedCount
  rw [List.range_succ, List.filter_append, List.length_append]
  by_cases h : appliesTrial f (n + 1) = true
  · simp [h]
  · simp [h]

theorem appliesTrial_of_simple (f : LFactor) (hs : f.start = 0) (hst : f.stride = 1) (t : Nat) :
    appliesTrial f t = true := by
  simp [appliesTrial, applies, hs, hst, Nat.mod_one]

theorem appliesTrial_succ (f : LFactor) (n : Nat) :
    appliesTrial f (n + 1) = applies f (n / f.sustain + 1) := by
  simp [appliesTrial]

theorem appliedCount_all (f : LFactor) (h : ∀ u, appliesTrial f u = true) (n : Nat) :
    appliedCount f n = n := by
  induction n with
  | zero => simp
  | succ n ih => rw [appliedCount_succ, ih, h]; simp

end SPModel.Layout

namespace SPModel.Pipeline
open Layout

/-- the 0-based trials `a ≤ t < b` to which the factor applies, in order -/
def applicable (f : LFactor) (a b : Nat) : List Nat :=
  ((List.range (b - a)).map (fun u => a + u)).filter (fun t => appliesTrial f (t + 1))

theorem mem_applicable (f : LFactor) (a b t : Nat) :
    t ∈ applicable f a b ↔ a ≤ t ∧ t < b ∧ appliesTrial f (t + 1) = true := by
  rw [applicable, List.mem_filter, ← List.range'_eq_map_range, List.mem_range'_1, and_assoc]
  refine and_congr_right fun h => and_congr_left' ?_
  obtain ⟨k, rfl⟩ := Nat.exists_eq_add_of_le h
  rw [Nat.add_lt_add_iff_left, Nat.lt_sub_iff_add_lt']

theorem applicable_pairwise (f : LFactor) (a b : Nat) : (applicable f a b).Pairwise (· < ·) := by
  rw [applicable, ← List.range'_eq_map_range]
  exact List.Pairwise.filter _ List.pairwise_lt_range'

theorem applicable_all (f : LFactor) (h : ∀ u, appliesTrial f u = true) (a b : Nat) :
    applicable f a b = (List.range (b - a)).map (fun u => a + u) := by
  unfold applicable
  rw [List.filter_eq_self]
  intro t _
  exact h _

theorem appliedCount_eq_length (f : LFactor) (n : Nat) : appliedCount f n = (applicable f 0 n).length := by
  simp only [appliedCount, applicable, Nat.sub_zero, Nat.zero_add, List.map_id']

theorem applicable_counts (f : LFactor) (a b : Nat) :
    (applicable f a b).map (appliedCount f) = List.range' (appliedCount f a) (applicable f a b).length := by
  rw [applicable, ← List.range'_eq_map_range]
  generalize b - a = n
  induction n generalizing a with
  | zero => rfl
  | succ n ih =>
    rw [List.range'_succ, List.filter_cons]
    split
    · next h => rw [List.map_cons, List.length_cons, List.range'_succ, ih, appliedCount_succ, if_pos h]
    · next h => rw [ih, appliedCount_succ, if_neg h, Nat.add_zero]

theorem forall_applicable (f : LFactor) (n : Nat) (P : Nat → Prop) :
    (∀ c, c < appliedCount f n → P c) ↔ ∀ t ∈ applicable f 0 n, P (appliedCount f t) := by
  have h := applicable_counts f 0 n
  rw [appliedCount_zero, ← List.range_eq_range', ← appliedCount_eq_length] at h
  simp only [← List.mem_range, ← h, List.forall_mem_map]

end SPModel.Pipeline

namespace SPModel.Layout

theorem appliedCount_pred_lt (f : LFactor) (t n : Nat) (h1 : 1 ≤ t) (hn : t ≤ n)
    (ha : appliesTrial f t = true) : appliedCount f (t - 1) < appliedCount f n := by
  obtain ⟨t, rfl⟩ := Nat.exists_eq_add_one.2 h1
  exact (Pipeline.forall_applicable f n (· < appliedCount f n)).1 (fun _ h => h) t
    ((Pipeline.mem_applicable f 0 n t).2 ⟨Nat.zero_le t, hn, ha⟩)

theorem appliedCount_pred_inj (f : LFactor) (t t' : Nat) (h1 : 1 ≤ t) (h1' : 1 ≤ t')
    (ha : appliesTrial f t = true) (ha' : appliesTrial f t' = true)
    (heq : appliedCount f (t - 1) = appliedCount f (t' - 1)) : t = t' := by
  rcases Nat.lt_trichotomy t t' with hlt | heq' | hgt
  · exact absurd heq (Nat.ne_of_lt (appliedCount_pred_lt f t (t' - 1) h1 (Nat.le_sub_one_of_lt hlt) ha))
  · exact heq'
  · exact absurd heq.symm
      (Nat.ne_of_lt (appliedCount_pred_lt f t' (t - 1) h1' (Nat.le_sub_one_of_lt hgt) ha'))

theorem appliedCount_exists_trial (f : LFactor) (n q : Nat) (hq : q < appliedCount f n) :
    ∃ t, 1 ≤ t ∧ t ≤ n ∧ appliesTrial f t = true ∧ appliedCount f (t - 1) = q := by
  revert q
  refine (Pipeline.forall_applicable f n _).2 fun t ht => ?_
  have h := (Pipeline.mem_applicable f 0 n t).1 ht
  exact ⟨t + 1, Nat.succ_pos t, h.2.1, h.2.2, rfl⟩

theorem simpleTuple_go_eq (fs : List LFactor) (j i l : Nat) (f : LFactor)
    (h : fs[i]? = some f) (hc : f.complex = false) (hl : l < f.nlevels) :
    simpleTuple.go fs j (sumIf (fun g => !g.complex) (·.nlevels) (fs.take i) + l) = some (j + i, l) := by
  induction fs generalizing j i with
  | nil => cases h
  | cons x xs ih =>
    cases i with
    | zero =>
      cases h
      simp [simpleTuple.go, hc, hl]
    | succ i =>
      have ih := ih (j + 1) i h
      rw [Nat.add_assoc, Nat.add_comm 1] at ih
      cases hx : x.complex <;> simp [simpleTuple.go, hx, Nat.add_assoc, ih]

theorem decode_go_eq (b : LBlock) (fs : List LFactor) (j start i r : Nat) (f : LFactor)
    (h : fs[i]? = some f) (hc : f.complex = true) (hr : r < variablesForFactor b f) :
    decodeVariable.go b fs j start
        (start + sumIf (·.complex) (variablesForFactor b) (fs.take i) + r)
      = some (j + i, r % f.nlevels) := by
  have hn : f.nlevels ≠ 0 := fun h0 => by simp [variablesForFactor, h0] at hr
  induction fs generalizing j i start with
  | nil => cases h
  | cons x xs ih =>
    cases i with
    | zero =>
      cases h
      simp [decodeVariable.go, hc, hr, hn]
    | succ i =>
      cases hx : x.complex
      · have ih := ih (j + 1) start i h
        rw [Nat.add_assoc j, Nat.add_comm 1] at ih
        simp [decodeVariable.go, hx, ih]
      · have ih := ih (j + 1) (start + variablesForFactor b x) i h
        rw [Nat.add_assoc j, Nat.add_comm 1] at ih
        simp [decodeVariable.go, hx, Nat.add_assoc, ← ih]
        exact fun h => absurd h (Nat.not_lt.2 (Nat.le_add_right _ _))

def simpleOffset (b : LBlock) (i : Nat) : Nat :=
  sumIf (fun g => !g.complex) (·.nlevels) (b.factors.take i)

def complexOffset (b : LBlock) (i : Nat) : Nat :=
  sumIf (·.complex) (variablesForFactor b) (b.factors.take i)

theorem variablesPerTrial_eq (b : LBlock) :
    variablesPerTrial b = sumIf (fun g => !g.complex) (·.nlevels) b.factors := by
  simp [variablesPerTrial, foldl_filter_eq_sumIf]

/-- the part of `C14.WF` about factors without a complex window: they apply to every trial -/
def SimpleEverywhere (b : LBlock) : Prop :=
  ∀ f ∈ b.factors, f.complex = false → f.start = 0 ∧ f.stride = 1

theorem appliedCount_simple {b : LBlock} (hs : SimpleEverywhere b) {f : LFactor}
    (hf : f ∈ b.factors) (hc : f.complex = false) (n : Nat) : appliedCount f n = n :=
  have ⟨h0, h1⟩ := hs f hf hc
  appliedCount_all f (appliesTrial_of_simple f h0 h1) n

theorem variablesPerSample_eq (b : LBlock) (hs : SimpleEverywhere b) :
    variablesPerSample b = gridVariables b + sumIf (·.complex) (variablesForFactor b) b.factors := by
  suffices h : ∀ fs, (∀ f ∈ fs, f.complex = false → appliedCount f b.trials = b.trials) →
      (fs.map (variablesForFactor b)).sum = b.trials * sumIf (fun g => !g.complex) (·.nlevels) fs
        + sumIf (·.complex) (variablesForFactor b) fs by
    rw [gridVariables, variablesPerTrial_eq, ← h _ fun f hf hc => appliedCount_simple hs hf hc _,
      List.sum_eq_foldl, List.foldl_map, variablesPerSample]
  intro fs h
  induction fs with
  | nil => rfl
  | cons x xs ih =>
    rw [List.map_cons, List.sum_cons, ih fun f hf => h f (List.mem_cons_of_mem _ hf)]
    cases hx : x.complex
    · simp [hx, variablesForFactor, h x List.mem_cons_self hx, Nat.mul_add, Nat.mul_comm, Nat.add_assoc]
    · simp [hx, Nat.add_left_comm]

/- One shape for both kinds of factor: its variables lie in rows of `rowWidth` consecutive variables, one row
   for each trial it applies to; 0-based, level `l` in the row of trial `t` is
   `origin + l + rowWidth * previousCount f t`.  Factors without a complex window share the rows of the grid,
   a complex factor has rows of its own. -/

def rowWidth (b : LBlock) (f : LFactor) : Nat := if f.complex then f.nlevels else variablesPerTrial b

def origin (b : LBlock) (i : Nat) (f : LFactor) : Nat :=
  if f.complex then gridVariables b + complexOffset b i else simpleOffset b i

theorem firstVariableForLevel_eq (b : LBlock) (i l : Nat) (f : LFactor) (h : b.factors[i]? = some f) :
    firstVariableForLevel b i l = origin b i f + l := by
  cases hc : f.complex <;>
    simp [firstVariableForLevel, h, hc, foldl_filter_eq_sumIf, origin, simpleOffset, complexOffset]

theorem encodeVar_eq (b : LBlock) (i l t : Nat) (f : LFactor) (h : b.factors[i]? = some f) :
    encodeVar b i l t = origin b i f + l + rowWidth b f * previousCount f t + 1 := by
  cases hc : f.complex <;> simp [encodeVar, h, hc, firstVariableForLevel_eq b i l f h, rowWidth]

theorem encodeVar_level (b : LBlock) (i l t : Nat) (f : LFactor) (hf : b.factors[i]? = some f) :
    encodeVar b i l t = encodeVar b i 0 t + l := by
  rw [encodeVar_eq _ i l t f hf, encodeVar_eq _ i 0 t f hf, Nat.add_right_comm _ 1 l, Nat.add_right_comm _ _ l,
    Nat.add_zero (origin ..)]

theorem encodeVar_simple (b : LBlock) (i l t : Nat) (f : LFactor)
    (h : b.factors[i]? = some f) (hc : f.complex = false) :
    encodeVar b i l t
      = simpleOffset b i + l + variablesPerTrial b * previousCount f t + 1 := by
  simp [encodeVar_eq b i l t f h, origin, rowWidth, hc]

theorem encodeVar_complex (b : LBlock) (i l t : Nat) (f : LFactor)
    (h : b.factors[i]? = some f) (hc : f.complex = true) :
    encodeVar b i l t
      = gridVariables b + complexOffset b i + l + f.nlevels * previousCount f t + 1 := by
  simp [encodeVar_eq b i l t f h, origin, rowWidth, hc]

theorem add_mul_lt (a n q m : Nat) (ha : a < n) (hq : q < m) : a + n * q < n * m := by
  refine Nat.lt_of_lt_of_le (Nat.add_lt_add_right ha _) ?_
  rw [Nat.add_comm, ← Nat.mul_succ]
  exact Nat.mul_le_mul_left n hq

theorem exists_add_mul {x n m : Nat} (h : x < n * m) : ∃ a q, a < n ∧ q < m ∧ x = a + n * q := by
  have hn : 0 < n := Nat.pos_of_ne_zero (by rintro rfl; simp at h)
  exact ⟨x % n, x / n, Nat.mod_lt x hn, (Nat.div_lt_iff_lt_mul hn).2 (Nat.mul_comm n m ▸ h),
    (Nat.mod_add_div x n).symm⟩

theorem simpleOffset_add_le (b : LBlock) (i : Nat) (f : LFactor)
    (h : b.factors[i]? = some f) (hc : f.complex = false) :
    simpleOffset b i + f.nlevels ≤ variablesPerTrial b := by
  rw [variablesPerTrial_eq]
  exact sumIf_take_add_le (fun g => !g.complex) (·.nlevels) b.factors i f h (by simp [hc])

theorem nlevels_le_rowWidth (b : LBlock) (i : Nat) (f : LFactor) (h : b.factors[i]? = some f) :
    f.nlevels ≤ rowWidth b f := by
  cases hc : f.complex
  · rw [rowWidth, hc, if_neg Bool.false_ne_true]
    exact Nat.le_trans (Nat.le_add_left _ _) (simpleOffset_add_le b i f h hc)
  · rw [rowWidth, hc, if_pos rfl]
    exact Nat.le_refl _

/-- end (0-based, exclusive) of the region holding the factor's variables: the grid, or the factor's own rows -/
def regionEnd (b : LBlock) (i : Nat) (f : LFactor) : Nat :=
  if f.complex then origin b i f + variablesForFactor b f else gridVariables b

theorem regionEnd_le (b : LBlock) (hs : SimpleEverywhere b) (i : Nat) (f : LFactor)
    (h : b.factors[i]? = some f) : regionEnd b i f ≤ variablesPerSample b := by
  rw [variablesPerSample_eq b hs]
  cases hc : f.complex
  · simp [regionEnd, hc]
  · rw [regionEnd, origin, hc, if_pos rfl, if_pos rfl, Nat.add_assoc]
    exact Nat.add_le_add_left (sumIf_take_add_le (·.complex) (variablesForFactor b) b.factors i f h hc) _

theorem slot_lt (b : LBlock) (hs : SimpleEverywhere b)
    (i : Nat) (f : LFactor) (h : b.factors[i]? = some f) {l q : Nat} (hl : l < f.nlevels)
    (hq : q < appliedCount f b.trials) :
    origin b i f + l + rowWidth b f * q < regionEnd b i f := by
  cases hc : f.complex
  · rw [appliedCount_simple hs (List.mem_of_getElem? h) hc] at hq
    simp only [origin, rowWidth, regionEnd, hc, gridVariables, Bool.false_eq_true, if_false]
    rw [Nat.mul_comm b.trials]
    exact add_mul_lt _ _ _ _
      (Nat.lt_of_lt_of_le (Nat.add_lt_add_left hl _) (simpleOffset_add_le b i f h hc)) hq
  · simp only [origin, rowWidth, regionEnd, hc, if_true, variablesForFactor]
    rw [Nat.add_assoc]
    exact Nat.add_lt_add_left (add_mul_lt l f.nlevels q _ hl hq) _

theorem encodeVar_region (b : LBlock) (hs : SimpleEverywhere b) (i : Nat) (f : LFactor)
    (h : b.factors[i]? = some f) {l t : Nat} (hl : l < f.nlevels) (h1 : 1 ≤ t) (hT : t ≤ b.trials)
    (ha : appliesTrial f t = true) :
    origin b i f < encodeVar b i l t ∧ encodeVar b i l t ≤ regionEnd b i f := by
  have := slot_lt b hs i f h hl (appliedCount_pred_lt f t b.trials h1 hT ha)
  rw [encodeVar_eq b i l t f h, previousCount]
  exact ⟨Nat.lt_succ_of_le (Nat.le_trans (Nat.le_add_right _ _) (Nat.le_add_right _ _)), this⟩

theorem encodeVar_lt (b : LBlock) (i : Nat) (f : LFactor) (hf : b.factors[i]? = some f)
    (l l' t t' : Nat) (hl : l < f.nlevels) (h1 : 1 ≤ t) (htt : t < t')
    (ha : appliesTrial f t = true) : encodeVar b i l t < encodeVar b i l' t' := by
  have hp := appliedCount_pred_lt f t (t' - 1) h1 (Nat.le_sub_one_of_lt htt) ha
  rw [encodeVar_eq b i l t f hf, encodeVar_eq b i l' t' f hf, previousCount, previousCount,
    Nat.add_assoc _ l, Nat.add_assoc _ l']
  exact Nat.succ_lt_succ (Nat.add_lt_add_left (Nat.lt_of_lt_of_le
    (add_mul_lt l _ _ _ (Nat.lt_of_lt_of_le hl (nlevels_le_rowWidth b i f hf)) hp) (Nat.le_add_left _ _)) _)

theorem exists_slot (b : LBlock) (hs : SimpleEverywhere b) (x : Nat) (hx : x < variablesPerSample b) :
    ∃ i f l q, b.factors[i]? = some f ∧ l < f.nlevels ∧ q < appliedCount f b.trials ∧
      x = origin b i f + l + rowWidth b f * q := by
  rw [variablesPerSample_eq b hs] at hx
  by_cases hg : x < gridVariables b
  · rw [gridVariables, Nat.mul_comm] at hg
    obtain ⟨k, q, hk, hq, rfl⟩ := exists_add_mul hg
    rw [variablesPerTrial_eq] at hk
    obtain ⟨i, f, l, hf, hc, hl, rfl⟩ := sumIf_exists_slot _ _ _ k hk
    have hc : f.complex = false := by simpa using hc
    exact ⟨i, f, l, q, hf, hl, by rwa [appliedCount_simple hs (List.mem_of_getElem? hf) hc],
      by simp [origin, rowWidth, hc, simpleOffset]⟩
  · obtain ⟨x, rfl⟩ := Nat.exists_eq_add_of_le (Nat.le_of_not_lt hg)
    obtain ⟨i, f, r, hf, hc, hr, rfl⟩ := sumIf_exists_slot (·.complex) (variablesForFactor b) b.factors x
      (Nat.lt_of_add_lt_add_left hx)
    obtain ⟨l, q, hl, hq, rfl⟩ := exists_add_mul hr
    exact ⟨i, f, l, q, hf, hl, hq, by simp only [origin, rowWidth, hc, if_true, complexOffset, Nat.add_assoc]⟩

theorem decode_slot (b : LBlock) (hs : SimpleEverywhere b)
    (i : Nat) (f : LFactor) (h : b.factors[i]? = some f) {l q : Nat} (hl : l < f.nlevels)
    (hq : q < appliedCount f b.trials) :
    decodeVariable b (origin b i f + l + rowWidth b f * q + 1) = some (i, l) := by
  have hlt := slot_lt b hs i f h hl hq
  unfold decodeVariable
  cases hc : f.complex
  · -- in the grid: `simpleTuple` looks up the position within the trial's row, `simpleOffset b i + l`
    have hso := Nat.lt_of_lt_of_le (Nat.add_lt_add_left hl _) (simpleOffset_add_le b i f h hc)
    simp only [origin, rowWidth, regionEnd, hc, Bool.false_eq_true, if_false, Nat.add_sub_cancel] at hlt ⊢
    rw [if_pos hlt, if_neg (Nat.ne_of_gt (Nat.zero_lt_of_lt hso)), Nat.add_mul_mod_self_left,
      Nat.mod_eq_of_lt hso]
    exact (simpleTuple_go_eq b.factors 0 i l f h hc hl).trans (by rw [Nat.zero_add])
  · -- past the grid: the walk over the complex factors stops at `f`, at offset `l + f.nlevels * q`
    have hgo := decode_go_eq b b.factors 0 (gridVariables b) i (l + f.nlevels * q) f h hc
      (add_mul_lt l f.nlevels q _ hl hq)
    rw [Nat.add_mul_mod_self_left, Nat.mod_eq_of_lt hl, Nat.zero_add] at hgo
    simp only [origin, rowWidth, hc, if_true, Nat.add_sub_cancel, complexOffset]
    rw [Nat.add_assoc _ l, if_neg (Nat.not_lt.2 (Nat.le_trans (Nat.le_add_right _ _) (Nat.le_add_right _ _))),
      hgo]

end SPModel.Layout
