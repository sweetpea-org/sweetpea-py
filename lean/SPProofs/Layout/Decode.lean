/-
  For C16: `Decode.decode` on a one-hot model (`decode_eq`), through the ascending sort, the variables of
  one factor ordered by trial (`levelsOf_filter`) and the fill-in loop (`fillIn_eq`).
-/
import SPModel.Decode
import SPProofs.Properties.C14
import SPProofs.Basic.List

namespace SPModel.Decode
open SPModel Layout

theorem insertSorted_perm (x : Nat) (l : List Nat) : (insertSorted x l).Perm (x :: l) := by
  fun_induction insertSorted x l with
  | case1 => exact .refl _
  | case2 => exact .refl _
  | case3 y ys _ ih => exact (ih.cons y).trans (.swap x y ys)

theorem sortAsc_perm (l : List Nat) : (sortAsc l).Perm l := by
  induction l with
  | nil => exact .refl _
  | cons x xs ih => exact (insertSorted_perm x _).trans (ih.cons x)

theorem insertSorted_pairwise (x : Nat) (l : List Nat) (hl : l.Pairwise (· ≤ ·)) :
    (insertSorted x l).Pairwise (· ≤ ·) := by
  fun_induction insertSorted x l with
  | case1 => exact List.pairwise_singleton _ _
  | case2 y ys hle =>
    exact List.pairwise_cons.2 ⟨fun a ha => (List.mem_cons.1 ha).elim (· ▸ hle)
      fun ha => Nat.le_trans hle ((List.pairwise_cons.1 hl).1 a ha), hl⟩
  | case3 y ys hle ih =>
    rw [List.pairwise_cons] at hl
    exact List.pairwise_cons.2 ⟨fun a ha => (List.mem_cons.1 ((insertSorted_perm x ys).mem_iff.1 ha)).elim
      (· ▸ Nat.le_of_not_le hle) (hl.1 a), ih hl.2⟩

theorem sortAsc_pairwise (l : List Nat) : (sortAsc l).Pairwise (· ≤ ·) := by
  induction l with
  | nil => exact .nil
  | cons x xs ih => exact insertSorted_pairwise x _ ih

theorem positives_pairwise (sol : List Int) (h : (sol.filter (fun v => decide (0 < v))).Nodup) :
    (positives sol).Pairwise (· < ·) := by
  have hnd : (positives sol).Nodup := by
    rw [positives, (sortAsc_perm _).nodup_iff]
    show List.Pairwise (· ≠ ·) _
    rw [List.pairwise_map]
    refine List.Pairwise.imp_of_mem (fun {a b} ha hb hne heq => hne ?_) h
    have ha := Int.le_of_lt (of_decide_eq_true (List.mem_filter.1 ha).2)
    have hb := Int.le_of_lt (of_decide_eq_true (List.mem_filter.1 hb).2)
    rw [← Int.natAbs_of_nonneg ha, ← Int.natAbs_of_nonneg hb, heq]
  exact ((sortAsc_pairwise _).and hnd).imp fun h => Nat.lt_of_le_of_ne h.1 h.2

theorem mem_positives (sol : List Int) (v : Nat) : v ∈ positives sol ↔ 0 < v ∧ (v : Int) ∈ sol := by
  simp only [positives, (sortAsc_perm _).mem_iff, List.mem_map, List.mem_filter, decide_eq_true_eq]
  constructor
  · rintro ⟨a, ⟨ha, hpos⟩, rfl⟩
    exact ⟨Int.natAbs_pos.2 (Int.ne_of_gt hpos), by rwa [Int.natAbs_of_nonneg (Int.le_of_lt hpos)]⟩
  · rintro ⟨hv, hm⟩
    exact ⟨v, ⟨hm, Int.natCast_pos.2 hv⟩, Int.natAbs_natCast v⟩
/-- on a strictly increasing list, what `filterMap g` returns depends only on the members `g` keeps -/
theorem filterMap_eq_of_pairwise_lt {β : Type} (g : Nat → Option β) {xs ys : List Nat}
    (hx : xs.Pairwise (· < ·)) (hy : ys.Pairwise (· < ·))
    (h : ∀ v, v ∈ xs ∧ (g v).isSome = true ↔ v ∈ ys) : xs.filterMap g = ys.filterMap g := by
  have hf : xs.filterMap g = (xs.filter (fun v => (g v).isSome)).filterMap g := by
    rw [List.filterMap_filter]
    congr
    funext x
    cases g x <;> rfl
  have hx' := hx.filter (fun v => (g v).isSome)
  rw [hf, ((List.perm_ext_iff_of_nodup (hx'.imp Nat.ne_of_lt) (hy.imp Nat.ne_of_lt)).2
    fun v => List.mem_filter.trans (h v)).eq_of_pairwise (fun _ _ _ _ h1 h2 => absurd h1 (Nat.lt_asymm h2)) hx' hy]

/-- `C16.decode_onehot` spells this out as its hypothesis `hlev`: where the factor applies, `lv t` is its one true level -/
def OneHot (b : LBlock) (ρ : Assign) (i : Nat) (f : LFactor) (lv : Nat → Nat) : Prop :=
  ∀ t, 1 ≤ t → t ≤ b.trials → appliesTrial f t = true →
    lv t < f.nlevels ∧ ∀ l, l < f.nlevels → (ρ (encodeVar b i l t) = true ↔ l = lv t)

theorem levelsOf_filter (b : LBlock) (hwf : C14.WF b) (i : Nat) (f : LFactor) (hf : b.factors[i]? = some f)
    (ρ : Assign) (lv : Nat → Nat) (hlv : OneHot b ρ i f lv)
    (pos : List Nat) (hpw : pos.Pairwise (· < ·))
    (hmem : ∀ v, v ≤ variablesPerSample b → (v ∈ pos ↔ 1 ≤ v ∧ ρ v = true))
    (P : Nat → Bool) (hP1 : ∀ v, P v = true → v ≤ regionEnd b i f)
    (hP2 : ∀ v, origin b i f < v → v ≤ regionEnd b i f → P v = true) :
    levelsOf b i (pos.filter P) = (Pipeline.applicable f 0 b.trials).map (fun t => lv (t + 1)) := by
  have hin : ∀ t ∈ Pipeline.applicable f 0 b.trials, t + 1 ≤ b.trials ∧ appliesTrial f (t + 1) = true :=
    fun t ht => ((Pipeline.mem_applicable f 0 _ t).1 ht).2
  have hone := fun t ht => hlv (t + 1) (Nat.succ_pos t) (hin t ht).1 (hin t ht).2
  have hch : ∀ t ∈ Pipeline.applicable f 0 b.trials, C14.Choice b i (lv (t + 1)) (t + 1) :=
    fun t ht => ⟨f, hf, (hone t ht).1, Nat.succ_pos t, (hin t ht).1, (hin t ht).2⟩
  have hend := regionEnd_le b hwf.simple i f hf
  -- the variables of this factor that `pos` lists are `encodeVar b i (lv t) t` over the applicable `t`, increasing in `t`
  unfold levelsOf
  refine (filterMap_eq_of_pairwise_lt _ (hpw.filter _)
    (ys := (Pipeline.applicable f 0 b.trials).map (fun t => encodeVar b i (lv (t + 1)) (t + 1))) ?_ ?_).trans ?_
  · rw [List.pairwise_map]
    exact (Pipeline.applicable_pairwise f 0 b.trials).imp_of_mem fun {t t'} ht _ hlt =>
      encodeVar_lt b i f hf _ _ _ _ (hone t ht).1 (Nat.succ_pos t) (Nat.succ_lt_succ hlt) (hin t ht).2
  · intro v
    simp only [List.mem_filter, List.mem_map]
    constructor
    · rintro ⟨⟨hv, hP⟩, hsome⟩
      have hv2 := Nat.le_trans (hP1 v hP) hend
      obtain ⟨hv1, hρ⟩ := (hmem v hv2).1 hv
      obtain ⟨j, l, t, hc, rfl⟩ := C14.encode_surjective b hwf v ⟨hv1, hv2⟩
      simp only [C14.decode_encode b hwf j l t hc] at hsome
      obtain rfl : j = i := Classical.byContradiction fun hji => by simp [hji] at hsome
      obtain ⟨f', hf', hl, h1, hT, ha⟩ := hc
      obtain rfl : f = f' := Option.some.inj (hf.symm.trans hf')
      obtain ⟨t, rfl⟩ := Nat.exists_eq_add_one.2 h1
      obtain rfl := ((hlv _ h1 hT ha).2 l hl).1 hρ
      exact ⟨t, (Pipeline.mem_applicable ..).2 ⟨Nat.zero_le t, hT, ha⟩, rfl⟩
    · rintro ⟨t, ht, rfl⟩
      have hr := encodeVar_region b hwf.simple i f hf (hone t ht).1 (Nat.succ_pos t) (hin t ht).1 (hin t ht).2
      refine ⟨⟨(hmem _ (Nat.le_trans hr.2 hend)).2 ⟨Nat.zero_lt_of_lt hr.1, ((hone t ht).2 _ (hone t ht).1).2 rfl⟩,
        hP2 _ hr.1 hr.2⟩, ?_⟩
      simp only [C14.decode_encode b hwf i _ _ (hch t ht), if_true, Option.isSome_some]
  · rw [List.filterMap_map]
    apply List.filterMap_eq_map_of_some
    intro t ht
    simp only [Function.comp, C14.decode_encode b hwf i _ _ (hch t ht), if_true]

/-- the row `decode` returns for a factor: the level where it applies, '' elsewhere -/
def rowOf (f : LFactor) (trials : Nat) (lv : Nat → Nat) : List (Option Nat) :=
  (List.range trials).map (fun n => if appliesTrial f (n + 1) then some (lv (n + 1)) else none)

theorem rowOf_length (f : LFactor) (trials : Nat) (lv : Nat → Nat) : (rowOf f trials lv).length = trials := by
  simp [rowOf]

theorem rowOf_get (f : LFactor) (trials : Nat) (lv : Nat → Nat) (t : Nat) (ht : t < trials) :
    (rowOf f trials lv)[t]? = some (if appliesTrial f (t + 1) then some (lv (t + 1)) else none) := by
  simp [rowOf, ht]

/-- The loop of `fillIn`.  The step function enters through the two equations the induction uses, so that the
    lambda need not be written out again; `fillIn_eq` supplies them. -/
theorem fillIn_fold (f : LFactor) (h : Nat → Nat)
    (F : Except PyErr (List (Option Nat) × List Nat) → Nat → Except PyErr (List (Option Nat) × List Nat))
    (hF1 : ∀ out x xs n, applies f (n / f.sustain + 1) = true →
      F (.ok (out, x :: xs)) n = .ok (out ++ [some x], xs))
    (hF2 : ∀ out rest n, applies f (n / f.sustain + 1) = false →
      F (.ok (out, rest)) n = .ok (out ++ [none], rest))
    (ns : List Nat) (out : List (Option Nat)) :
    ns.foldl F (.ok (out, (ns.filter (fun t => appliesTrial f (t + 1))).map h))
    = .ok (out ++ ns.map (fun n => if appliesTrial f (n + 1) then some (h n) else none), []) := by
  induction ns generalizing out with
  | nil => simp
  | cons n ns ih =>
    cases ha : appliesTrial f (n + 1)
    · simp only [List.foldl_cons, List.filter_cons, ha, Bool.false_eq_true, if_false, List.map_cons]
      rw [hF2 _ _ _ (appliesTrial_succ f n ▸ ha), ih, List.append_assoc, List.singleton_append]
    · simp only [List.foldl_cons, List.filter_cons, ha, if_true, List.map_cons]
      rw [hF1 _ _ _ _ (appliesTrial_succ f n ▸ ha), ih, List.append_assoc, List.singleton_append]

theorem fillIn_eq (f : LFactor) (trials : Nat) (lv : Nat → Nat) :
    fillIn f trials ((Pipeline.applicable f 0 trials).map (fun t => lv (t + 1))) = .ok (rowOf f trials lv) := by
  simp only [fillIn, Pipeline.applicable, Nat.sub_zero, Nat.zero_add, List.map_id']
  rw [fillIn_fold f (fun t => lv (t + 1)) _ _ _ (List.range trials) []]
  · rfl
  · intro out x xs n hn
    simp only [hn, if_true]
  · intro out rest n hn
    simp only [hn, Bool.false_eq_true, if_false]

theorem complexRange_eq (b : LBlock) (i : Nat) (f : LFactor) (hf : b.factors[i]? = some f)
    (hc : f.complex = true) : complexRange b i f = (origin b i f + 1, regionEnd b i f + 1) := by
  simp only [complexRange, firstVariableForLevel_eq b i 0 f hf, regionEnd, hc, if_true, Nat.add_zero,
    Nat.add_right_comm _ 1]

theorem decode_eq (b : LBlock) (hwf : C14.WF b) (ht : 0 < b.trials) (sol : List Int) (ρ : Assign)
    (hnodup : (sol.filter (fun v => decide (0 < v))).Nodup)
    (hsol : ∀ v : Nat, 1 ≤ v → v ≤ variablesPerSample b → ((v : Int) ∈ sol ↔ ρ v = true))
    (lev : Nat → Nat → Nat)
    (hlev : ∀ i f, b.factors[i]? = some f → OneHot b ρ i f (lev i)) :
    decode b sol = .ok ((List.range b.factors.length).map
      (fun i => some (rowOf (b.factors.getD i default) b.trials (lev i)))) := by
  have hpw := positives_pairwise sol hnodup
  have hmem : ∀ v, v ≤ variablesPerSample b → (v ∈ positives sol ↔ 1 ≤ v ∧ ρ v = true) :=
    fun v h2 => (mem_positives sol v).trans (and_congr_right fun h1 => hsol v h1 h2)
  unfold decode
  apply List.mapM_ok_of_forall
  intro i hi
  rw [List.mem_range] at hi
  obtain ⟨f, hf⟩ : ∃ f, b.factors[i]? = some f := ⟨b.factors[i], List.getElem?_eq_getElem hi⟩
  have hfd : b.factors.getD i default = f := by rw [List.getD_eq_getElem?_getD, hf]; rfl
  simp only [hfd]
  cases hc : f.complex with
  | true =>
    -- the two filters keep the variables in `(origin, regionEnd]`, and `gridVariables ≤ origin`
    simp only [if_true, List.filter_filter, complexRange_eq b i f hf hc]
    rw [levelsOf_filter b hwf i f hf ρ (lev i) (hlev i f hf) _ hpw hmem, fillIn_eq]
    · intro v hv
      simp only [Bool.and_eq_true, decide_eq_true_eq] at hv
      exact Nat.le_of_lt_succ hv.1.2
    · intro v h1 h2
      have hg : gridVariables b ≤ origin b i f := by rw [origin, hc, if_pos rfl]; exact Nat.le_add_right _ _
      simp only [Bool.and_eq_true, decide_eq_true_eq]
      exact ⟨⟨h1, Nat.lt_succ_of_le h2⟩, Nat.lt_of_le_of_lt hg h1⟩
  | false =>
    -- the filter keeps the grid; the factor applies to every trial, so no entry is '' and (`ht`) the list is not empty
    obtain ⟨h0, hs1⟩ := hwf.simple f (List.mem_of_getElem? hf) hc
    have hall := appliesTrial_of_simple f h0 hs1
    have hre : regionEnd b i f = gridVariables b := by rw [regionEnd, hc, if_neg Bool.false_ne_true]
    simp only [Bool.false_eq_true, if_false]
    rw [levelsOf_filter b hwf i f hf ρ (lev i) (hlev i f hf) _ hpw hmem]
    · simp [Pipeline.applicable_all f hall, rowOf, hall, Nat.ne_of_gt ht]
    · intro v hv
      exact hre ▸ of_decide_eq_true hv
    · intro v _ h2
      exact decide_eq_true (hre ▸ h2)

end SPModel.Decode
