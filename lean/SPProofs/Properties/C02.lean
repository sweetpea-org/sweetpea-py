/-
  C02 (and the core of C01) — the compiled formula has exactly the intended models.  Throughout, `p` is an input of the
  compilation (`SPModel.Pipeline`, tied to `build_cnf` by correspondence I8) whose decidable side conditions hold
  (`checkWf p = (true, true, true)`, evaluated by the driver on every real block of the correspondence run) and whose
  compilation returns the clause list φ.  The same at the level of trial sequences (`sequences_iff_models`,
  `sequence_unique`) stands in `Pipeline/SeqMain.lean`.
-/
import SPProofs.Pipeline.Ok
import SPProofs.Properties.C03

namespace SPModel.C02
open SPModel Pipeline Layout

theorem err_none_of_ok (p : PInput) (φ : Cnf) (h : buildCnf p = .ok φ) : (buildBackend p).err = none := by
  unfold buildCnf at h
  cases he : (buildBackend p).err with
  | none => rfl
  | some e => simp [he] at h

theorem compiled_of_ok (p : PInput) (φ : Cnf) (hφ : buildCnf p = .ok φ) : compiled (buildBackend p) = .ok φ :=
  (C03.buildCnf_eq p (err_none_of_ok p φ hφ)).symm.trans hφ

/-- An assignment σ of the design variables `1..vps` extends to a model of φ iff it extends (to the state variables of
    `Cross`) to an assignment under which every constraint means what `Pipeline.Meaning` says. -/
theorem models_iff_meaning (p : PInput) (hc : checkWf p = (true, true, true)) (φ : Cnf) (hφ : buildCnf p = .ok φ)
    (σ : Assign) :
    (∃ τ, Agree (variablesPerSample p.layout) σ τ ∧ cnfSat τ φ = true) ↔
      ∃ ρ, Agree (variablesPerSample p.layout) σ ρ ∧
        MeaningAll p (variablesPerSample p.layout + 1) p.constraints ρ := by
  obtain ⟨hwf, hok⟩ := checkWf_input p hc
  rw [C03.compiled_models (buildBackend p) _ (congrArg Prod.fst hc) φ (compiled_of_ok p φ hφ) σ]
  simp only [buildBackend_meaning p hwf hok]

/-- Two models of φ that agree on the design variables agree on every variable of φ: "enumerate models, block the
    design-variable projection" (C09) visits every intended assignment exactly once. -/
theorem model_unique (p : PInput) (hc : checkWf p = (true, true, true)) (φ : Cnf) (hφ : buildCnf p = .ok φ)
    (τ₁ τ₂ : Assign) (h₁ : cnfSat τ₁ φ = true) (h₂ : cnfSat τ₂ φ = true)
    (hag : Agree (variablesPerSample p.layout) τ₁ τ₂) :
    ∀ v, 1 ≤ v → (∃ c ∈ φ, ∃ l ∈ c, l.natAbs = v) → τ₁ v = τ₂ v :=
  C03.compiled_unique (buildBackend p) _ (congrArg Prod.fst hc) (congrArg (fun x => x.2.1) hc) φ
    (compiled_of_ok p φ hφ) τ₁ τ₂ h₁ h₂ hag

/-- Non-vacuity: the demo block of C03 (two trials, one two-level factor, `Cross` + `Consistency`) compiles. -/
example : ∃ φ, buildCnf C03.demo = .ok φ ∧ φ.length = 66 := by
  refine ⟨_, rfl, ?_⟩
  decide +kernel

end SPModel.C02
