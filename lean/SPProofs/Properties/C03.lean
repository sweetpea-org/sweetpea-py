/-
  C03 — each trial sequence is exactly one model of the compiled formula (and, as the glue for C01/C02, the compiled
  clause list means what the backend request means).  `b` is any backend whose first fresh variable was `vps + 1`,
  whatever constraint list produced it; correspondence I8 compares the clause list of `SPModel.Pipeline` with the real
  one on every generated block and evaluates `Backend.wf` / `Backend.statesDefined` on that block's backend.
-/
import SPProofs.Pipeline.Glue

namespace SPModel.C03
open SPModel Pipeline Layout

theorem buildCnf_eq (p : PInput) (h : (buildBackend p).err = none) :
    buildCnf p = compiled (buildBackend p) := by
  simp [buildCnf, compiled, h]

/-- well-formed ⇒ the cardinality encoders do not fail -/
theorem compiled_ok (b : Backend) (vps : Nat) (h : b.wf vps = true) : ∃ φ, compiled b = .ok φ :=
  (wf_unpack h).ok

/-- Restricted to the design variables `1..vps`, the models of the clause list are the assignments that extend to one
    under which every formula and every cardinality request holds. -/
theorem compiled_models (b : Backend) (vps : Nat) (h : b.wf vps = true) (φ : Cnf) (hφ : compiled b = .ok φ)
    (σ : Assign) :
    (∃ τ, Agree vps σ τ ∧ cnfSat τ φ = true) ↔ (∃ ρ, Agree vps σ ρ ∧ b.holds ρ = true) :=
  (wf_unpack h).models hφ σ

/-- Two models that agree on the design variables agree on every variable of the clause list (state variables of
    `Cross`, Tseitin variables, adder variables): the solver's models correspond one to one to the trial sequences. -/
theorem compiled_unique (b : Backend) (vps : Nat) (h : b.wf vps = true) (hd : b.statesDefined vps = true)
    (φ : Cnf) (hφ : compiled b = .ok φ) (τ₁ τ₂ : Assign)
    (h₁ : cnfSat τ₁ φ = true) (h₂ : cnfSat τ₂ φ = true) (hag : Agree vps τ₁ τ₂) :
    ∀ v, 1 ≤ v → (∃ c ∈ φ, ∃ l ∈ c, l.natAbs = v) → τ₁ v = τ₂ v :=
  (wf_unpack h).unique hd hφ h₁ h₂ hag

/-- The extension `compiled_models` speaks of is unique too: the design variables determine a `holds`-assignment on the
    state variables. -/
theorem holds_unique (b : Backend) (vps : Nat) (h : b.wf vps = true) (hd : b.statesDefined vps = true)
    (ρ₁ ρ₂ : Assign) (h₁ : b.holds ρ₁ = true) (h₂ : b.holds ρ₂ = true) (hag : Agree vps ρ₁ ρ₂) :
    ∀ v, 1 ≤ v → v < b.fresh → isAux b.cnfs v = false → ρ₁ v = ρ₂ v :=
  have _ := h
  holds_unique_of_statesDefined hd h₁ h₂ hag

/-- Non-vacuity: a two-trial, one-factor, two-level block with `Cross` and `Consistency` meets both hypotheses. -/
def demo : PInput :=
  { layout := { factors := [{ nlevels := 2, complex := false, start := 0, stride := 1, sustain := 1 }], trials := 2 },
    crossings := [{ factors := [0], combos := [[0], [1]], weights := [1, 1], size := 2, preamble := 0, weight := 1 }],
    constraints := [.cross, .consistency], postPreamble := false, commonPreamble := 0 }

example : checkWf demo = (true, true, true) := by decide +kernel

end SPModel.C03
