/-
  C16 (trial count) / C25 (Nest): the documented arithmetic of `Spec.create` and `Spec.geo`, for all inputs.
  (A) The trial count is the least number that is at least 1, at least the (sustain-rounded) MinimumTrials in force and
      long enough for every crossing's preamble plus one round (`create_n_le_iff`).  It is NOT in general a multiple
      of every sustain count (`create_n_not_multiple`, `geo_n_not_multiple`): the rounding is sequential.
  (B) Nest: `nest_sustain`, `nest_scopes` (no hypotheses), `nest_trials` (outer × inner trials; each hypothesis is
      shown necessary by a counterexample).
-/
import SPModel.Spec
import SPProofs.SpecLemmas.Create

namespace SPModel.C25
open SPModel SPModel.Spec SPModel.CreateN

def lv (n : String) (w : Nat := 1) : LevelD := ⟨n, w, #[]⟩
def fac (id k : Nat) : FactorD := ⟨id, "f", (List.range k).map (fun _ => lv "l"), none⟩
/-- factors 0, 1, 2 (2 levels), 3, 5 (3 levels), 6 (1 level), 4 = transition-like factor over 2 (width 2) -/
def dEx : Design :=
  ⟨[fac 0 2, fac 1 2, fac 2 2, fac 3 3, fac 5 3, fac 6 1,
    ⟨4, "t", [⟨"same", 1, #[false, false, false, false, true, false, false, false, true]⟩,
              ⟨"diff", 1, #[false, false, false, false, false, true, false, true, false]⟩],
      some ⟨[2], 2, 1, none, "transition"⟩⟩], .cross [] [] [] false⟩

theorem create_n_eq (d : Design) (design : List Nat) (insts : List CrossInst) (old : List Scoped)
    (new : List ConstraintD) (rcc : Bool) (mode : Mode) (align : Alignment) :
    (create d design insts old new rcc mode align).n
      = max (max (roundUp (live insts) (minT0 (old ++ newScoped0 new)))
          (required d design (excludedLevels (old ++ newScoped0 new)) (live insts) align)) 1 := by
  rw [SpecLemmas.create_eq_createM]
  exact SpecLemmas.nOf_eq ..

/-- the trial count as a least bound; the last conjunct by crossing: `required_le_iff`, `required_post_le_iff` -/
theorem create_n_le_iff (d : Design) (design : List Nat) (insts : List CrossInst) (old : List Scoped)
    (new : List ConstraintD) (rcc : Bool) (mode : Mode) (align : Alignment) (m : Nat) :
    (create d design insts old new rcc mode align).n ≤ m ↔
      1 ≤ m ∧ roundUp (live insts) (minT0 (old ++ newScoped0 new)) ≤ m ∧
        required d design (excludedLevels (old ++ newScoped0 new)) (live insts) align ≤ m := by
  rw [create_n_eq, Nat.max_le, Nat.max_le, and_comm]

theorem create_n_ge_required (d : Design) (design : List Nat) (insts : List CrossInst) (old : List Scoped)
    (new : List ConstraintD) (rcc : Bool) (mode : Mode) (align : Alignment) :
    required d design (excludedLevels (old ++ newScoped0 new)) (live insts) align
      ≤ (create d design insts old new rcc mode align).n :=
  ((create_n_le_iff ..).mp (Nat.le_refl _)).2.2

theorem create_n_pos (d : Design) (design : List Nat) (insts : List CrossInst) (old : List Scoped)
    (new : List ConstraintD) (rcc : Bool) (mode : Mode) (align : Alignment) :
    1 ≤ (create d design insts old new rcc mode align).n :=
  ((create_n_le_iff ..).mp (Nat.le_refl _)).1

theorem create_n_ge_rounded (d : Design) (design : List Nat) (insts : List CrossInst) (old : List Scoped)
    (new : List ConstraintD) (rcc : Bool) (mode : Mode) (align : Alignment) :
    roundUp (live insts) (minT0 (old ++ newScoped0 new)) ≤ (create d design insts old new rcc mode align).n :=
  ((create_n_le_iff ..).mp (Nat.le_refl _)).2.1

/-- a MinimumTrials inherited from a sub-block counts `sustain` trials per trial of the block it was given to, one
    given to this block counts as written -/
theorem create_n_ge_minTrials (d : Design) (design : List Nat) (insts : List CrossInst) (old : List Scoped)
    (new : List ConstraintD) (rcc : Bool) (mode : Mode) (align : Alignment) :
    (∀ s ∈ old, ∀ k, s.c = .minTrials k → k * s.sustain ≤ (create d design insts old new rcc mode align).n) ∧
    (∀ k, ConstraintD.minTrials k ∈ new → k ≤ (create d design insts old new rcc mode align).n) :=
  minT0_append_newScoped0_le_iff.mp (Nat.le_trans (le_roundUp _ _)
    (create_n_ge_rounded d design insts old new rcc mode align))

theorem create_lengths (d : Design) (design : List Nat) (insts : List CrossInst) (old : List Scoped)
    (new : List ConstraintD) (rcc : Bool) (mode : Mode) (align : Alignment) :
    let g := create d design insts old new rcc mode align
    g.preambles.length = g.crossings.length ∧ g.sizes.length = g.crossings.length := by
  intro g
  have h : GeoOK d g := (create_inv_self ..).1
  exact ⟨by rw [h.preambles_eq, List.length_map], by rw [h.sizes, List.length_map]⟩

/-- every crossing gets its preamble plus one full round (not POST_PREAMBLE) -/
theorem create_n_ge_round (d : Design) (design : List Nat) (insts : List CrossInst) (old : List Scoped)
    (new : List ConstraintD) (rcc : Bool) (mode : Mode) (align : Alignment) (hal : align ≠ .postPreamble) :
    let g := create d design insts old new rcc mode align
    ∀ p ∈ g.preambles.zip g.sizes, p.1 + p.2 ≤ g.n := by
  intro g
  exact (create_required_le_iff d design insts old new rcc mode hal).mp (create_n_ge_required ..)

/-- POST_PREAMBLE as computed: every crossing's own preamble plus the largest round fits -/
theorem create_n_ge_round_post_own (d : Design) (design : List Nat) (insts : List CrossInst) (old : List Scoped)
    (new : List ConstraintD) (rcc : Bool) (mode : Mode) :
    let g := create d design insts old new rcc mode .postPreamble
    ∀ i ∈ insts, i.factors ≠ [] → ∀ s ∈ g.sizes,
      (i.factors.map (fun f => start d f)).foldl max 0 * i.sustain + s ≤ g.n := by
  intro g i hi hne s hs
  rw [create_sizes] at hs
  obtain ⟨j, hj, rfl⟩ := List.mem_map.mp hs
  exact required_post_le_iff.mp (create_n_ge_required ..) i (mem_live.mpr ⟨hi, hne⟩) j hj

/-- POST_PREAMBLE as documented: any crossing's round fits after the longest preamble, which `preambles` holds -/
theorem create_n_ge_round_post (d : Design) (design : List Nat) (insts : List CrossInst) (old : List Scoped)
    (new : List ConstraintD) (rcc : Bool) (mode : Mode) :
    let g := create d design insts old new rcc mode .postPreamble
    ∀ p ∈ g.preambles, ∀ s ∈ g.sizes, p + s ≤ g.n := by
  intro g
  exact (create_required_post_le_iff d design insts old new rcc mode).mp (create_n_ge_required ..)

theorem create_n_least (d : Design) (design : List Nat) (insts : List CrossInst) (old : List Scoped)
    (new : List ConstraintD) (rcc : Bool) (mode : Mode) (align : Alignment) (hal : align ≠ .postPreamble) (m : Nat)
    (h1 : 1 ≤ m) (hmin : roundUp (live insts) (minT0 (old ++ newScoped0 new)) ≤ m)
    (hround : ∀ p ∈ (create d design insts old new rcc mode align).preambles.zip
        (create d design insts old new rcc mode align).sizes, p.1 + p.2 ≤ m) :
    (create d design insts old new rcc mode align).n ≤ m :=
  (create_n_le_iff ..).mpr ⟨h1, hmin, (create_required_le_iff d design insts old new rcc mode hal).mpr hround⟩

theorem create_n_least_post (d : Design) (design : List Nat) (insts : List CrossInst) (old : List Scoped)
    (new : List ConstraintD) (rcc : Bool) (mode : Mode) (m : Nat)
    (h1 : 1 ≤ m) (hmin : roundUp (live insts) (minT0 (old ++ newScoped0 new)) ≤ m)
    (hround : ∀ p ∈ (create d design insts old new rcc mode .postPreamble).preambles,
      ∀ s ∈ (create d design insts old new rcc mode .postPreamble).sizes, p + s ≤ m) :
    (create d design insts old new rcc mode .postPreamble).n ≤ m :=
  (create_n_le_iff ..).mpr ⟨h1, hmin, (create_required_post_le_iff d design insts old new rcc mode).mpr hround⟩

/-- "least" as documented: among the common multiples of the sustain counts with the three properties.  The trial
    count itself need not be such a multiple: `create_n_not_multiple`. -/
theorem create_n_le_of_common_multiple (d : Design) (design : List Nat) (insts : List CrossInst) (old : List Scoped)
    (new : List ConstraintD) (rcc : Bool) (mode : Mode) (align : Alignment) (hal : align ≠ .postPreamble) (m : Nat)
    (h1 : 1 ≤ m) (hdvd : ∀ i ∈ insts, i.factors ≠ [] → i.sustain ≠ 0 → i.sustain ∣ m)
    (hold : ∀ s ∈ old, ∀ k, s.c = .minTrials k → k * s.sustain ≤ m)
    (hnew : ∀ k, ConstraintD.minTrials k ∈ new → k ≤ m)
    (hround : ∀ p ∈ (create d design insts old new rcc mode align).preambles.zip
        (create d design insts old new rcc mode align).sizes, p.1 + p.2 ≤ m) :
    (create d design insts old new rcc mode align).n ≤ m := by
  exact create_n_least d design insts old new rcc mode align hal m h1
    (roundUp_le_of_dvd (minT0_append_newScoped0_le_iff.mpr ⟨hold, hnew⟩)
      fun i hi => hdvd i (mem_live.mp hi).1 (mem_live.mp hi).2) hround

/-- Blocks without Nest: all sustain counts are 1, nothing is rounded, and the trial count is exactly the least number
    with the three documented properties. -/
theorem create_n_sustain_one (d : Design) (design : List Nat) (insts : List CrossInst) (old : List Scoped)
    (new : List ConstraintD) (rcc : Bool) (mode : Mode) (align : Alignment)
    (hs : ∀ i ∈ insts, i.sustain = 1) :
    (create d design insts old new rcc mode align).n
      = max (max (minT0 (old ++ newScoped0 new))
          (required d design (excludedLevels (old ++ newScoped0 new)) (live insts) align)) 1 := by
  rw [create_n_eq, roundUp_sustain_one _ (fun i hi => hs i (mem_live.mp hi).1)]

/-- the sustain rounding: the least common multiple `≥ m` of the sustain counts whenever it is a common multiple -/
theorem roundUp_spec (insts : List CrossInst) (m : Nat) :
    m ≤ roundUp insts m ∧
    ∀ m', m ≤ m' → (∀ i ∈ insts, i.sustain ≠ 0 → i.sustain ∣ m') → roundUp insts m ≤ m' :=
  ⟨le_roundUp insts m, fun _ h hd => roundUp_le_of_dvd h hd⟩

/-- the rounding is done one crossing after the other: the last sustain count always divides the result -/
theorem roundUp_dvd_last (insts : List CrossInst) (i : CrossInst) (m : Nat) (h : i.sustain ≠ 0) :
    i.sustain ∣ roundUp (insts ++ [i]) m := by
  unfold roundUp
  rw [List.foldl_append, List.foldl_cons, List.foldl_nil]
  simp only [roundStep, h, if_false]
  exact Nat.dvd_mul_left ..

/-- The trial count need NOT be a multiple of every sustain count, even when MinimumTrials is the binding term:
    sustain counts 2 and 3, MinimumTrials(7): 7 → 8 → 9 trials. -/
theorem create_n_not_multiple :
    let g := create dEx [0, 1] [⟨[0], 2, 1⟩, ⟨[1], 3, 1⟩] [] [.minTrials 7] false .weight .equalPreamble
    g.n = 9 ∧ g.crossings.map (·.sustain) = [2, 3] ∧ g.sizes = [4, 6] ∧ ¬ 2 ∣ g.n := by decide +kernel

/-- the new constraints are scoped to this block's length and common preamble -/
theorem create_constraints (d : Design) (design : List Nat) (insts : List CrossInst) (old : List Scoped)
    (new : List ConstraintD) (rcc : Bool) (mode : Mode) (align : Alignment) :
    let g := create d design insts old new rcc mode align
    g.constraints = old ++ new.map (fun c => { c := c, scope := some (g.n, g.preambles.headD 0), sustain := 1 }) := by
  rw [SpecLemmas.create_eq_createM]
  exact congrArg (fun x => old ++ new.map (fun c => (⟨c, some (_, x), 1⟩ : Scoped))) (SpecLemmas.commonOf_eq_headD ..)

/-- C16 for every block expression: the same closed form on the block's own crossings, constraints and alignment -/
theorem geo_n_eq (d : Design) (b : BlockExpr) :
    (geo d b).n = max (max (roundUp (geo d b).crossings (minT0 (geo d b).constraints))
      (required d (geo d b).design (excludedLevels (geo d b).constraints) (geo d b).crossings (geo d b).align)) 1 :=
  (geo_geoOK d b).n

/-- Merge of two Nests: sustain counts 2, 1, 3, 1 and 9 trials -/
def mnEx (cs : List ConstraintD) : BlockExpr :=
  .merge [.nest (.cross [0] [0] [] false) (.cross [2] [2] [] false) [] none,
          .nest (.cross [3] [3] [] false) (.cross [5] [5] [] false) [] none] cs .weight none

/-- as `create_n_not_multiple`, without MinimumTrials: a 2×2 Nest (sustain 2, size 4) merged with a 3×3 Nest
    (sustain 3, size 9) has 9 trials -/
theorem geo_n_not_multiple :
    (geo dEx (mnEx [])).n = 9 ∧ (geo dEx (mnEx [])).crossings.map (·.sustain) = [2, 1, 3, 1] ∧
    (geo dEx (mnEx [])).sizes = [4, 2, 9, 3] ∧ (geo dEx (mnEx [])).error = none ∧ ¬ 2 ∣ (geo dEx (mnEx [])).n := by
  decide +kernel

/-- the inner length: the inner block's trials after its (first crossing's) preamble -/
def innerLen (d : Design) (inner : BlockExpr) : Nat := (geo d inner).n - (geo d inner).preambles.headD 0

theorem innerLen_eq (d : Design) (inner : BlockExpr) (h : (geo d inner).preambles.headD 0 = 0) :
    innerLen d inner = (geo d inner).n := by
  unfold innerLen
  rw [h, Nat.sub_zero]

/-- Nest: the outer crossings have their sustain count multiplied by the inner length; the inner crossings are
    unchanged (weights included: Nest combines in REPEAT mode).  No hypotheses. -/
theorem nest_sustain (d : Design) (outer inner : BlockExpr) (cs : List ConstraintD) (align : Option Alignment) :
    (geo d (.nest outer inner cs align)).crossings
      = (geo d outer).crossings.map (fun i => { i with sustain := i.sustain * innerLen d inner })
        ++ (geo d inner).crossings := by
  simp only [geo, innerLen]
  rw [create_crossings_repeat, live_eq_self]
  intro i hi
  rcases List.mem_append.mp hi with h | h
  · obtain ⟨j, hj, rfl⟩ := List.mem_map.mp h
    exact (geo_geoOK d outer).live j hj
  · exact (geo_geoOK d inner).live i h

/-- Nest: the outer block's constraints have scope and sustain multiplied by the inner length, the inner block's are
    unchanged, those given to the Nest are scoped to the whole result.  No hypotheses. -/
theorem nest_scopes (d : Design) (outer inner : BlockExpr) (cs : List ConstraintD) (align : Option Alignment) :
    let L := innerLen d inner
    let g := geo d (.nest outer inner cs align)
    g.constraints
      = (geo d outer).constraints.map (fun s =>
          { s with scope := s.scope.map (fun p => (p.1 * L, p.2 * L)), sustain := s.sustain * L })
        ++ (geo d inner).constraints
        ++ cs.map (fun c => { c := c, scope := some (g.n, g.preambles.headD 0), sustain := 1 }) := by
  simp only [geo, innerLen]
  exact create_constraints ..

/-- Nest: trial count = outer trials × inner trials, for blocks without preambles (`hstart`) and without MinimumTrials
    (`hminO`, `hminI`) whose crossings are as large inside the Nest as in their own block (`hsizeO`, `hsizeI`); each
    hypothesis is needed, see the examples below. -/
theorem nest_trials (d : Design) (outer inner : BlockExpr) (align : Option Alignment)
    (hstart : ∀ i ∈ (geo d outer).crossings ++ (geo d inner).crossings, ∀ f ∈ i.factors, start d f = 0)
    (hminO : ∀ s ∈ (geo d outer).constraints, ∀ k, s.c ≠ .minTrials k)
    (hminI : ∀ s ∈ (geo d inner).constraints, ∀ k, s.c ≠ .minTrials k)
    (hsizeO : ∀ i ∈ (geo d outer).crossings,
      crossSize d (unionIds (geo d outer).design (geo d inner).design) i.factors
          (excludedLevels ((geo d outer).constraints ++ (geo d inner).constraints))
        = crossSize d (geo d outer).design i.factors (excludedLevels (geo d outer).constraints))
    (hsizeI : ∀ i ∈ (geo d inner).crossings,
      crossSize d (unionIds (geo d outer).design (geo d inner).design) i.factors
          (excludedLevels ((geo d outer).constraints ++ (geo d inner).constraints))
        = crossSize d (geo d inner).design i.factors (excludedLevels (geo d inner).constraints)) :
    (geo d (.nest outer inner [] align)).n = (geo d outer).n * (geo d inner).n := by
  have hstartI : ∀ i ∈ (geo d inner).crossings, ∀ f ∈ i.factors, start d f = 0 :=
    fun i hi => hstart i (List.mem_append_right _ hi)
  have hO := (geo_geoOK d outer).n_le_iff_of_plain (fun i hi => hstart i (List.mem_append_left _ hi)) hminO
  have hI := (geo_geoOK d inner).n_le_iff_of_plain hstartI hminI
  have hc := nest_sustain d outer inner [] align
  have hs : (geo d (.nest outer inner [] align)).constraints = _ := nest_scopes d outer inner [] align
  have hd : (geo d (.nest outer inner [] align)).design = unionIds (geo d outer).design (geo d inner).design := rfl
  rw [innerLen_eq d inner ((geo_geoOK d inner).preambles_headD_zero hstartI)] at hc hs
  have hL : 0 < (geo d inner).n := ((hI _).mp (Nat.le_refl _)).1
  -- the Nest is plain as well: its crossings keep their factors, its constraints their kind
  have hN := (geo_geoOK d (.nest outer inner [] align)).n_le_iff_of_plain
    (by
      rw [hc]
      refine List.forall_mem_append.mpr ⟨List.forall_mem_map.mpr fun j hj => ?_, hstartI⟩
      exact hstart j (List.mem_append_left _ hj))
    (by
      rw [hs, List.map_nil, List.append_nil]
      exact List.forall_mem_append.mpr ⟨List.forall_mem_map.mpr hminO, hminI⟩)
  -- compare upper bounds (`L` the inner trial count): `m` bounds the Nest iff `m ≥ 1` and every round of the Nest
  -- fits, an outer one being `L` times as long; `m` bounds the product iff `m / L` bounds the outer count
  refine eq_of_forall_ge_iff (fun m => ?_)
  rw [hN, hc, hd, hs, List.map_nil, List.append_nil, excludedLevels_append, excludedLevels_map,
    ← excludedLevels_append, List.forall_mem_append, List.forall_mem_map,
    -- `a * L ≤ m ↔ a ≤ m / L`: the outer block counts in units of `L` trials
    ← Nat.le_div_iff_mul_le hL, hO, Nat.le_div_iff_mul_le hL, Nat.one_mul, hI m, and_right_comm, and_assoc]
  refine and_congr_right' (and_congr (forall₂_congr fun j hj => ?_) (forall₂_congr fun i hi => ?_))
  · rw [Nat.le_div_iff_mul_le hL, roundSize, roundSize, hsizeO j hj, Nat.mul_assoc]
  · rw [roundSize, roundSize, hsizeI i hi]
  · exact fun _ => rfl

/-- `nest_trials` for `Nest(CrossBlock, CrossBlock)`.  `hstartI`, `hsizeO`, `hsizeI` are necessary (examples below);
    for `hstartO`, `hminO`, `hminI` the counterexamples need a Merge / MultiCrossBlock, and two CrossBlocks give the
    product without them too (example below; not proved). -/
theorem nest_trials_leaves (d : Design) (designO crossingO : List Nat) (csO : List ConstraintD) (rccO : Bool)
    (designI crossingI : List Nat) (csI : List ConstraintD) (rccI : Bool)
    (hstartO : ∀ f ∈ crossingO, start d f = 0) (hstartI : ∀ f ∈ crossingI, start d f = 0)
    (hminO : ∀ k, ConstraintD.minTrials k ∉ csO) (hminI : ∀ k, ConstraintD.minTrials k ∉ csI)
    (hsizeO : crossSize d (unionIds designO designI) crossingO (exclOf (csO ++ csI))
      = crossSize d designO crossingO (exclOf csO))
    (hsizeI : crossSize d (unionIds designO designI) crossingI (exclOf (csO ++ csI))
      = crossSize d designI crossingI (exclOf csI)) :
    (geo d (.nest (.cross designO crossingO csO rccO) (.cross designI crossingI csI rccI) [] none)).n
      = (geo d (.cross designO crossingO csO rccO)).n * (geo d (.cross designI crossingI csI rccI)).n := by
  have hE : excludedLevels ((geo d (.cross designO crossingO csO rccO)).constraints
      ++ (geo d (.cross designI crossingI csI rccI)).constraints) = exclOf (csO ++ csI) := by
    rw [excludedLevels_eq, List.map_append, geo_cross_constraints, geo_cross_constraints]
  apply nest_trials
  · intro i hi
    rcases List.mem_append.mp hi with h | h
    · rw [geo_cross_factors _ _ _ _ _ i h]; exact hstartO
    · rw [geo_cross_factors _ _ _ _ _ i h]; exact hstartI
  · exact geo_cross_no_minTrials d _ _ _ hminO
  · exact geo_cross_no_minTrials d _ _ _ hminI
  · intro i hi
    rw [hE, geo_cross_factors _ _ _ _ _ i hi, geo_cross_design, geo_cross_design, excludedLevels_eq,
      geo_cross_constraints]
    exact hsizeO
  · intro i hi
    rw [hE, geo_cross_factors _ _ _ _ _ i hi, geo_cross_design, geo_cross_design, excludedLevels_eq,
      geo_cross_constraints]
    exact hsizeI

def oEx : BlockExpr := .cross [0, 1] [0, 1] [] false
def iEx : BlockExpr := .cross [2] [2] [] false
/-- 2×2 outer crossing, 2-level inner crossing: 4 × 2 = 8 trials; the outer crossing is sustained 2 trials -/
example : (geo dEx oEx).n = 4 ∧ (geo dEx iEx).n = 2 ∧ (geo dEx (.nest oEx iEx [] none)).n = 8 ∧
    (geo dEx (.nest oEx iEx [] none)).crossings.map (fun i => (i.factors, i.sustain)) = [([0, 1], 2), ([2], 1)] ∧
    (geo dEx (.nest oEx iEx [] none)).sizes = [8, 2] := by decide +kernel

/-- the hypotheses of `nest_trials` hold for it -/
example : (geo dEx (.nest oEx iEx [] none)).n = (geo dEx oEx).n * (geo dEx iEx).n :=
  nest_trials dEx oEx iEx none (by decide +kernel)
    (fun s hs => by
      have h : (geo dEx oEx).constraints = [] := rfl
      rw [h] at hs; cases hs)
    (fun s hs => by
      have h : (geo dEx iEx).constraints = [] := rfl
      rw [h] at hs; cases hs)
    (by decide +kernel) (by decide +kernel)

/-- and those of `nest_trials_leaves`, with constraints on both blocks (3-level inner factor: 4 × 3 = 12) -/
example : (geo dEx (.nest (.cross [0, 1] [0, 1] [.atMost 1 0 none] false)
      (.cross [3] [3] [.exclude 5 0] false) [] none)).n = 4 * 3 := by
  have h := nest_trials_leaves dEx [0, 1] [0, 1] [.atMost 1 0 none] false [3] [3] [.exclude 5 0] false
    (by decide +kernel) (by decide +kernel) (by intro k h; simp at h) (by intro k h; simp at h)
    (by decide +kernel) (by decide +kernel)
  rw [h]
  decide +kernel

/-- `hstart`, inner part, is needed: an inner crossing with a Transition factor has a one-trial preamble; the inner
    length is 5 - 1 = 4 and the Nest has 4 × 4 = 16 trials, not 4 × 5. -/
example :
    let i : BlockExpr := .cross [2, 4] [2, 4] [] false
    (geo dEx oEx).n = 4 ∧ (geo dEx i).n = 5 ∧ (geo dEx i).preambles = [1] ∧ (geo dEx i).sizes = [4] ∧
    (geo dEx (.nest oEx i [] none)).n = 16 ∧ (geo dEx (.nest oEx i [] none)).sizes = [16, 4] := by decide +kernel

/-- `hstart`, outer part, is needed (for an explicit alignment): outer block POST_PREAMBLE with crossings of
    preamble 1, size 2 and preamble 0, size 4 has 1 + 4 = 5 trials; nested PARALLEL_START over a 3-trial inner block
    it needs max (3 + 6) 12 = 12 trials, not 5 × 3. -/
example :
    let o : BlockExpr := .multiCross [0, 1, 2, 4] [[4], [0, 1]] [] false .weight .postPreamble
    let i : BlockExpr := .cross [3] [3] [] false
    (geo dEx o).n = 5 ∧ (geo dEx i).n = 3 ∧ (geo dEx o).sizes = [2, 4] ∧
    (geo dEx (.nest o i [] (some .parallelStart))).n = 12 ∧
    (geo dEx (.nest o i [] (some .parallelStart))).sizes = [6, 12, 3] ∧
    (geo dEx (.nest o i [] (some .parallelStart))).error = none := by decide +kernel

/-- `hminO` is needed: outer MinimumTrials(3) on a 2-level factor (3 trials) over the 9-trial Merge of Nests:
    27 is rounded up to a multiple of 9, then of 2, then of 3: 30 trials, not 3 × 9. -/
example :
    let o : BlockExpr := .cross [1] [1] [.minTrials 3] false
    (geo dEx o).n = 3 ∧ (geo dEx (mnEx [])).n = 9 ∧ (geo dEx (.nest o (mnEx []) [] none)).n = 30 ∧
    (geo dEx (.nest o (mnEx []) [] none)).sizes = [2 * 9, 4, 2, 9, 3] ∧
    (geo dEx (.nest o (mnEx []) [] none)).error = none := by decide +kernel

/-- `hminI` is needed: a 1-level outer factor (1 trial) over the same Merge with MinimumTrials(1) (still 9 trials):
    1 is rounded up to 9, 10, 12: 12 trials, not 1 × 9. -/
example :
    let o : BlockExpr := .cross [6] [6] [] false
    (geo dEx o).n = 1 ∧ (geo dEx (mnEx [.minTrials 1])).n = 9 ∧
    (geo dEx (.nest o (mnEx [.minTrials 1]) [] none)).n = 12 ∧
    (geo dEx (.nest o (mnEx [.minTrials 1]) [] none)).sizes = [1 * 9, 4, 2, 9, 3] ∧
    (geo dEx (.nest o (mnEx [.minTrials 1]) [] none)).error = none := by decide +kernel

/-- `hsizeO` is needed: an Exclude given to the inner block on a level of an outer factor halves the outer crossing
    inside the Nest only: 2·2 = 4 trials, not 4 × 2. -/
example :
    let i : BlockExpr := .cross [2] [2] [.exclude 0 0] false
    (geo dEx oEx).n = 4 ∧ (geo dEx i).n = 2 ∧ (geo dEx (.nest oEx i [] none)).n = 4 ∧
    (geo dEx (.nest oEx i [] none)).sizes = [4, 2] := by decide +kernel

/-- `hsizeI` is needed: an Exclude given to the outer block on an inner level leaves the inner crossing 2 of its 3
    combinations inside the Nest.  With an empty outer crossing (1 trial): 2 trials, not 1 × 3; an outer crossing of
    size ≥ 1 hides this (the inner length is taken from the inner block alone). -/
example :
    let o : BlockExpr := .cross [6] [] [.exclude 3 0] false
    let i : BlockExpr := .cross [3] [3] [] false
    (geo dEx o).n = 1 ∧ (geo dEx i).n = 3 ∧ (geo dEx (.nest o i [] none)).sizes = [2] ∧
    (geo dEx (.nest o i [] none)).n = 2 := by decide +kernel

/-- For two CrossBlocks an outer preamble and MinimumTrials on both blocks do not break the product (7 × 4 = 28; the
    EQUAL_PREAMBLE error is raised separately), see `nest_trials_leaves`. -/
example :
    let o : BlockExpr := .cross [2, 4] [2, 4] [.minTrials 7] false
    let i : BlockExpr := .cross [3] [3] [.minTrials 4] false
    (geo dEx o).n = 7 ∧ (geo dEx o).preambles = [1] ∧ (geo dEx i).n = 4 ∧ (geo dEx (.nest o i [] none)).n = 28 := by
  decide +kernel

/-- (A) on the Nest example: MinimumTrials(9) given to the Nest is rounded up to a multiple of the outer crossing's
    sustain count 2: 10 trials (the rounds need 8) -/
example :
    (geo dEx (.nest oEx iEx [.minTrials 9] none)).n = 10 ∧
    (geo dEx (.nest oEx iEx [.minTrials 9] none)).preambles.zip (geo dEx (.nest oEx iEx [.minTrials 9] none)).sizes
      = [(0, 8), (0, 2)] := by decide +kernel

/-- `nest_sustain` / `nest_scopes`: AtMostKInARow on the 4-trial outer block gets windows of 4·2 = 8 trials and
    sustain 2, the one on the 2-trial inner block keeps its windows of 2 trials -/
example :
    let g := geo dEx (.nest (.cross [0, 1] [0, 1] [.atMost 1 0 none] false) (.cross [2] [2] [.atMost 1 2 none] false)
      [] none)
    g.constraints.map (fun s => (s.scope, s.sustain)) = [(some (8, 0), 2), (some (2, 0), 1)] ∧
    g.crossings.map (fun i => (i.factors, i.sustain, i.weight)) = [([0, 1], 2, 1), ([2], 1, 1)] ∧ g.n = 8 := by
  decide +kernel

#print axioms create_n_pos
#print axioms create_n_ge_minTrials
#print axioms create_lengths
#print axioms create_n_ge_round
#print axioms create_n_ge_round_post_own
#print axioms create_n_ge_round_post
#print axioms create_n_eq
#print axioms create_n_ge_rounded
#print axioms create_n_least
#print axioms create_n_least_post
#print axioms create_n_le_of_common_multiple
#print axioms create_n_sustain_one
#print axioms create_constraints
#print axioms geo_n_eq
#print axioms roundUp_spec
#print axioms roundUp_dvd_last
#print axioms create_n_not_multiple
#print axioms geo_n_not_multiple
#print axioms nest_sustain
#print axioms nest_scopes
#print axioms nest_trials
#print axioms nest_trials_leaves
#print axioms innerLen_eq

end SPModel.C25
