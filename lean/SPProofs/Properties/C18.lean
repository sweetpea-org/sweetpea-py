/-
  C18 — sharing constraint objects.  The geometry of a shared constraint object
  is whatever the first block wrote (`init_within_block` sets it once).
-/
import SPModel.Conform

namespace SPModel.C18
open SPModel SPModel.Conform

theorem afterBlocks_first (g : Geometry) (gs : List Geometry) : afterBlocks (g :: gs) = some g := by
  induction gs with
  | nil => rfl
  -- a set cell stays: `initWithin (some g) x` computes to `some g`, so the goal unfolds to the hypothesis
  | cons x xs ih => exact ih

/-- partial: if all blocks using the object have the same geometry, each sees the geometry it would have
    written into a fresh object, whatever the construction order -/
theorem shared_eq_fresh_partial (gs : List Geometry) (g : Geometry) (hne : gs ≠ [])
    (hall : ∀ x ∈ gs, x = g) : ∀ perm : List Geometry, perm.Perm gs → afterBlocks perm = some g := by
  intro perm hp
  cases perm with
  | nil => exact absurd hp.symm.eq_nil hne
  | cons x xs =>
    rw [afterBlocks_first]
    rw [hall x (hp.subset (List.mem_cons_self ..))]

/-- the defect (finding F4): with different geometries the second block does not get its own -/
theorem shared_defect : afterBlocks [(2, 0), (4, 0)] ≠ some (4, 0) := by
  decide

end SPModel.C18
