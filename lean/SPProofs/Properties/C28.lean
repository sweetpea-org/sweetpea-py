/-
  C28 — the ILP (OPB) export accepts the same assignments as the SAT encoding.  OPB rows have the standard
  pseudo-Boolean meaning `OpbRow.holds` (`SPModel.Text`); the SAT side comes through C10.
-/
import SPProofs.Text.Opb
import SPProofs.Properties.C10

namespace SPModel.C28
open SPModel SPModel.Text

theorem opb_clause (cl : Clause) (hcl : ∀ l ∈ cl, l ≠ 0) (τ : Assign) :
    (opbClause cl).holds τ = clauseSat τ cl := by
  rw [Bool.eq_iff_iff, OpbRow.holds_iff, clauseSat, List.any_eq_true, ← List.countP_pos_iff,
    List.countP_eq_length_filter]
  simp only [opbClause, OpbRow.lhs]
  rw [Int.sub_right_le_iff_le_add, isum_signed_terms τ cl hcl]
  exact Int.natCast_pos

theorem opb_request (r : Request) (hr : ∀ l ∈ r.vars, 0 < l) (τ : Assign) :
    (opbRequest r).holds τ = r.holds τ := by
  have h := isum_positive_terms τ r.vars hr
  rw [Bool.eq_iff_iff, OpbRow.holds_iff]
  cases hrel : r.rel <;>
    simp only [opbRequest, OpbRow.lhs, Request.holds, hrel, h, beq_iff_eq, decide_eq_true_eq,
      Int.natCast_inj, Int.le_sub_one_iff, Int.add_one_le_iff, Int.ofNat_lt]

/-- The constraint added between iterations excludes exactly the previous solution. -/
theorem opb_block (sol : List Int) (hs : ∀ l ∈ sol, l ≠ 0) (τ : Assign) :
    (opbBlock sol).holds τ = true ↔ ¬ (∀ l ∈ sol, litVal τ l = true) := by
  rw [← List.length_filter_eq_length_iff, OpbRow.holds_iff]
  simp only [opbBlock, OpbRow.lhs]
  rw [← Int.add_le_iff_le_sub, isum_signed_terms τ sol hs, Int.le_sub_one_iff, Int.ofNat_lt]
  exact ⟨Nat.ne_of_lt, Nat.lt_of_le_of_ne (List.length_filter_le _ _)⟩

/-- Every row of the file `combine_and_save_opb` writes holds exactly when the clauses and the requests do. -/
theorem opb_export (vals : List Clause) (reqs : List Request)
    (hv : ∀ c ∈ vals, ∀ l ∈ c, l ≠ 0) (hr : ∀ r ∈ reqs, ∀ l ∈ r.vars, 0 < l) (τ : Assign) :
    (opbExport vals reqs).all (fun row => row.holds τ) = true ↔
      (cnfSat τ vals = true ∧ ∀ r ∈ reqs, r.holds τ = true) := by
  simp only [opbExport, opbRows, cnfSat, List.all_append, Bool.and_eq_true, List.all_eq_true,
    List.mem_map, List.mem_reverse, forall_exists_index, and_imp, forall_apply_eq_imp_iff₂]
  exact and_congr (forall₂_congr fun c hc => by rw [opb_clause c (hv c hc)])
    (forall₂_congr fun r hr' => by rw [opb_request r (hr r hr')])

/-- The OPB file accepts an assignment of the variables `1..n` iff it extends to a model of what
    `combine_cnf_with_requests` builds from the same clauses and requests. -/
theorem opb_vs_sat (n : Nat) (vals : List Clause) (reqs : List Request)
    (hv : ∀ c ∈ vals, ∀ l ∈ c, LitOK n l)
    (hr : ∀ r ∈ reqs, r.vars ≠ [] ∧ ∀ l ∈ r.vars, 0 < l ∧ l.natAbs ≤ n) (σ : Assign) :
    (opbExport vals reqs).all (fun row => row.holds σ) = true ↔
      ∃ φ, combineCnfWithRequests vals n reqs = .ok φ ∧ ∃ τ, Agree n σ τ ∧ cnfSat τ φ = true := by
  obtain ⟨φ, hφ, hiff, -⟩ := SPModel.C10.combine_models n vals reqs hv
    (fun r hr' => ⟨(hr r hr').1, fun x hx => ⟨Int.ne_of_gt ((hr r hr').2 x hx).1,
      ((hr r hr').2 x hx).2⟩⟩)
  rw [opb_export vals reqs (fun c hc l hl => (hv c hc l hl).1)
    (fun r hr' l hl => ((hr r hr').2 l hl).1) σ, ← hiff σ]
  constructor
  · intro h; exact ⟨φ, hφ, h⟩
  · rintro ⟨φ', hφ', h⟩
    rw [hφ] at hφ'
    cases hφ'
    exact h

/-- Non-vacuity: 'more than 1 of {1,2,3}' is rendered `>= 2`. -/
example : (opbRequest { rel := .gt, k := 1, vars := [1, 2, 3] }).rhs = 2 := by decide

end SPModel.C28
