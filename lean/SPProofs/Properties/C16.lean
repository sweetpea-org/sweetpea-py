/-
  C16 (second half) / C14 — the experiment a strategy returns for a solver model has one entry per trial for every
  factor.  About `SPModel.Decode.decode`, the model of `Gen.decode` (correspondence I7d): for a model whose design
  variables are one-hot (`hlev`; `Consistency` enforces it, `Pipeline.consistency_meaning`), whatever auxiliary
  variables and negative literals it also lists and in whatever order, every factor of the active design gets
  `trials` entries: the chosen level where the factor applies, '' (none) elsewhere.
-/
import SPModel.Decode
import SPProofs.Properties.C14
import SPProofs.Layout.Decode

namespace SPModel.C16
open SPModel Layout Decode

theorem decode_onehot (b : LBlock) (hwf : C14.WF b) (ht : 0 < b.trials) (sol : List Int) (ρ : Assign)
    (hnodup : (sol.filter (fun v => decide (0 < v))).Nodup)
    (hsol : ∀ v : Nat, 1 ≤ v → v ≤ variablesPerSample b → ((v : Int) ∈ sol ↔ ρ v = true))
    (lev : Nat → Nat → Nat)
    (hlev : ∀ i f, b.factors[i]? = some f → ∀ t, 1 ≤ t → t ≤ b.trials → appliesTrial f t = true →
      lev i t < f.nlevels ∧ ∀ l, l < f.nlevels → (ρ (encodeVar b i l t) = true ↔ l = lev i t)) :
    ∃ rows, decode b sol = .ok rows ∧ rows.length = b.factors.length ∧
      ∀ i f, b.factors[i]? = some f → ∃ row, rows[i]? = some (some row) ∧ row.length = b.trials ∧
        ∀ t, t < b.trials →
          row[t]? = some (if appliesTrial f (t + 1) then some (lev i (t + 1)) else none) := by
  refine ⟨_, decode_eq b hwf ht sol ρ hnodup hsol lev hlev, by rw [List.length_map, List.length_range], ?_⟩
  intro i f hf
  refine ⟨rowOf f b.trials (lev i), ?_, rowOf_length _ _ _, fun t htt => rowOf_get _ _ _ t htt⟩
  rw [List.getElem?_map, List.getElem?_range (List.getElem?_eq_some_iff.1 hf).1, Option.map_some,
    List.getD_eq_getElem?_getD, hf]
  rfl

/-- Non-vacuity: two trials, a two-level factor and a transition-like complex factor starting at trial 2. -/
example : (match decode { factors := [⟨2, false, 0, 1, 1⟩, ⟨2, true, 1, 1, 1⟩], trials := 2 } [-1, 2, 3, -4, -5, 6, 9] with
    | .ok r => r | .error _ => []) = [some [some 1, some 0], some [none, some 1]] := by decide

end SPModel.C16
