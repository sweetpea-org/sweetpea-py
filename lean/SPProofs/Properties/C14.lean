/-
  C14 — trial/factor/level variables are allocated and decoded consistently.  About `SPModel.Layout` (the variable
  numbering of `block.py`): every applicable (trial, factor, level) gets its own variable inside
  `1..variablesPerSample` (auxiliary variables start above), every variable in that range is the variable of some
  choice, and decoding inverts encoding.
-/
import SPModel.Layout
import SPProofs.Layout.Lemmas

namespace SPModel.C14
open SPModel SPModel.Layout

/-- What the block constructors guarantee about the active design: positive stride / sustain / level counts, and
    factors without a complex window have a level in every trial. -/
def WF (b : LBlock) : Prop :=
  ∀ f ∈ b.factors, 0 < f.stride ∧ 0 < f.sustain ∧ 0 < f.nlevels ∧ (f.complex = false → f.start = 0 ∧ f.stride = 1)

/-- An applicable choice: factor `i` (= `f`), level `l`, trial `t` (1-based). -/
def Choice (b : LBlock) (i l t : Nat) : Prop :=
  ∃ f, b.factors[i]? = some f ∧ l < f.nlevels ∧ 1 ≤ t ∧ t ≤ b.trials ∧ appliesTrial f t = true

/-- the only part of `WF` the theorems below use (`Layout.SimpleEverywhere`) -/
theorem WF.simple {b : LBlock} (hwf : WF b) :
    ∀ f ∈ b.factors, f.complex = false → f.start = 0 ∧ f.stride = 1 :=
  fun f hf hc => (hwf f hf).2.2.2 hc

theorem previousCount_simple {b : LBlock} (hwf : WF b) {i : Nat} {f : LFactor}
    (hf : b.factors[i]? = some f) (hc : f.complex = false) (t : Nat) :
    previousCount f t = t - 1 :=
  appliedCount_simple hwf.simple (List.mem_of_getElem? hf) hc _

theorem encodeVar_simple_pred {b : LBlock} (hwf : WF b) {i : Nat} {f : LFactor}
    (hf : b.factors[i]? = some f) (hc : f.complex = false) (l t : Nat) :
    encodeVar b i l t - 1 = simpleOffset b i + l + variablesPerTrial b * (t - 1) := by
  rw [encodeVar_simple b i l t f hf hc, previousCount_simple hwf hf hc, Nat.add_sub_cancel]

theorem encode_range (b : LBlock) (hwf : WF b) (i l t : Nat) (h : Choice b i l t) :
    1 ≤ encodeVar b i l t ∧ encodeVar b i l t ≤ variablesPerSample b := by
  obtain ⟨f, hf, hl, h1, hT, ha⟩ := h
  have := encodeVar_region b hwf.simple i f hf hl h1 hT ha
  exact ⟨Nat.succ_le_of_lt (Nat.zero_lt_of_lt this.1), Nat.le_trans this.2 (regionEnd_le b hwf.simple i f hf)⟩

theorem decode_encode (b : LBlock) (hwf : WF b) (i l t : Nat) (h : Choice b i l t) :
    decodeVariable b (encodeVar b i l t) = some (i, l) := by
  obtain ⟨f, hf, hl, h1, hT, ha⟩ := h
  rw [encodeVar_eq b i l t f hf]
  exact decode_slot b hwf.simple i f hf hl (appliedCount_pred_lt f t b.trials h1 hT ha)

theorem encode_injective (b : LBlock) (hwf : WF b) (i l t i' l' t' : Nat)
    (h : Choice b i l t) (h' : Choice b i' l' t') (heq : encodeVar b i l t = encodeVar b i' l' t') :
    i = i' ∧ l = l' ∧ t = t' := by
  have hd := decode_encode b hwf i l t h
  rw [heq, decode_encode b hwf i' l' t' h', Option.some.injEq, Prod.mk.injEq] at hd
  obtain ⟨rfl, rfl⟩ := hd
  refine ⟨rfl, rfl, ?_⟩
  obtain ⟨f, hf, hl, h1, -, ha⟩ := h
  obtain ⟨f', hf', -, h1', -, ha'⟩ := h'
  obtain rfl : f = f' := Option.some.inj (hf.symm.trans hf')
  rw [encodeVar_eq b _ _ t f hf, encodeVar_eq b _ _ t' f hf, previousCount, previousCount] at heq
  have hw : 0 < rowWidth b f := Nat.lt_of_lt_of_le (Nat.zero_lt_of_lt hl) (nlevels_le_rowWidth b _ f hf)
  exact appliedCount_pred_inj f t t' h1 h1' ha ha'
    (Nat.eq_of_mul_eq_mul_left hw (Nat.add_left_cancel (Nat.succ.inj heq)))

theorem encode_surjective (b : LBlock) (hwf : WF b) (v : Nat) (hv : 1 ≤ v ∧ v ≤ variablesPerSample b) :
    ∃ i l t, Choice b i l t ∧ encodeVar b i l t = v := by
  obtain ⟨i, f, l, q, hf, hl, hq, hx⟩ := exists_slot b hwf.simple (v - 1) (Nat.sub_one_lt_of_le hv.1 hv.2)
  obtain ⟨t, ht1, htT, hta, htq⟩ := appliedCount_exists_trial f b.trials q hq
  refine ⟨i, l, t, ⟨f, hf, hl, ht1, htT, hta⟩, ?_⟩
  rw [encodeVar_eq b i l t f hf, previousCount, htq, ← hx, Nat.sub_add_cancel hv.1]

/-- the closed form behind the cached counting loop `_get_previous_trials_variable_count` -/
theorem previousCount_step (f : LFactor) (t : Nat) (ht : 1 ≤ t) :
    previousCount f (t + 1) = previousCount f t + (if appliesTrial f t then 1 else 0) := by
  obtain ⟨t, rfl⟩ := Nat.exists_eq_add_one.2 ht
  exact appliedCount_succ f t

/-- Non-vacuity: a transition-like factor (complex, start 1) next to two simple factors, 4 trials. -/
example : encodeVar ⟨[⟨2, false, 0, 1, 1⟩, ⟨3, false, 0, 1, 1⟩, ⟨2, true, 1, 1, 1⟩], 4⟩ 2 1 3 = 24
    ∧ variablesPerSample ⟨[⟨2, false, 0, 1, 1⟩, ⟨3, false, 0, 1, 1⟩, ⟨2, true, 1, 1, 1⟩], 4⟩ = 26 := by decide

end SPModel.C14
