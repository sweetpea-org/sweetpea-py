/-
  C13 — the unranking functions of the combinatoric sampler (`combinatorics.py`) are bijections
  from `[0, N)` onto all arrangements of their kind, `N` being what the matching counting
  function reports: `prod sizes`, `n ^ l`, `n!/(n-m)!` (`fallingProd`), `C(n, m)` (`nChooseM`),
  `(Σc)!/Πc!` (`countRemaining`), `countPrefixes`.  Each is stated as three facts, the fields of one
  `BijOn` fact of `SPProofs/Comb`: `_range` (no error, an arrangement of the kind; for `extractComponents`,
  `jthCombination`, `jthPermutationPrefix` at every index, not only below `N`), `_inj`, `_surj`.
-/
import SPProofs.Comb.Perm
import SPProofs.Comb.Choose
import SPProofs.Comb.Prefix

namespace SPModel.C13
open SPModel SPModel.Comb

-- The statements are kept as the checks register them.  Some of their hypotheses the proofs
-- do not need: given the bound on the index, `hpos` (`extractComponents_inj`), `hn`
-- (`jthCombination_inj`) and `hm` (`jthPermutationPrefix_inj`, `jthCombinationNoRepl_range`,
-- `jthCombinationNoRepl_inj`); `jthPrefix_*` need neither `ha` (the model reads a missing
-- counter as 0) nor `hq` (over no choices the count of non-empty prefixes is 0).
set_option linter.unusedVariables false

theorem extractComponents_range (sizes : List Nat) (hpos : ∀ s ∈ sizes, 0 < s) (n : Nat) :
    ∃ cs, extractComponents sizes n = .ok cs ∧ InBox sizes cs :=
  extractComponents_ok sizes hpos n

theorem extractComponents_inj (sizes : List Nat) (hpos : ∀ s ∈ sizes, 0 < s) (n₁ n₂ : Nat)
    (h₁ : n₁ < prod sizes) (h₂ : n₂ < prod sizes)
    (h : extractComponents sizes n₁ = extractComponents sizes n₂) : n₁ = n₂ :=
  (extractComponents_bij sizes).inj n₁ n₂ h₁ h₂ h

theorem extractComponents_surj (sizes cs : List Nat) (hbox : InBox sizes cs) :
    ∃ n, n < prod sizes ∧ extractComponents sizes n = .ok cs :=
  (extractComponents_bij sizes).surj_ok hbox

theorem jthCombination_range (l n j : Nat) (hn : 0 < n) :
    ∃ w, jthCombination l n j = .ok w ∧ IsWord n l w :=
  jthCombination_ok l n j hn

theorem jthCombination_inj (l n j₁ j₂ : Nat) (hn : 0 < n) (h₁ : j₁ < n ^ l) (h₂ : j₂ < n ^ l)
    (h : jthCombination l n j₁ = jthCombination l n j₂) : j₁ = j₂ :=
  (jthCombination_bij l n).inj j₁ j₂ h₁ h₂ h

theorem jthCombination_surj (l n : Nat) (w : List Nat) (hw : IsWord n l w) :
    ∃ j, j < n ^ l ∧ jthCombination l n j = .ok w :=
  (jthCombination_bij l n).surj_ok hw

theorem jthPermutationPrefix_range (n m j : Nat) (hm : m ≤ n) :
    ∃ w, jthPermutationPrefix n m j = .ok w ∧ IsPermutationPrefix n m w :=
  jthPermutationPrefix_ok n m j hm

theorem jthPermutationPrefix_inj (n m j₁ j₂ : Nat) (hm : m ≤ n)
    (h₁ : j₁ < fallingProd n m) (h₂ : j₂ < fallingProd n m)
    (h : jthPermutationPrefix n m j₁ = jthPermutationPrefix n m j₂) : j₁ = j₂ :=
  (jthPermutationPrefix_bij n m).inj j₁ j₂ h₁ h₂ h

theorem jthPermutationPrefix_surj (n m : Nat) (w : List Nat) (hw : IsPermutationPrefix n m w) :
    ∃ j, j < fallingProd n m ∧ jthPermutationPrefix n m j = .ok w :=
  (jthPermutationPrefix_bij n m).surj_ok hw

theorem fallingProd_eq (n m : Nat) (hm : m ≤ n) : fallingProd n m * factorial (n - m) = factorial n :=
  fallingProd_mul_factorial n m hm

theorem nChooseM_pascal (n m : Nat) : nChooseM (n + 1) (m + 1) = nChooseM n m + nChooseM n (m + 1) := by
  simp only [nChooseM_eq_choose]
  exact Nat.choose_succ_succ n m

theorem nChooseM_zero (n : Nat) : nChooseM n 0 = 1 := by
  rw [nChooseM_eq_choose, Nat.choose_zero_right]

theorem jthCombinationNoRepl_range (n m j : Nat) (hm : m ≤ n) (hj : j < nChooseM n m) :
    IsDecreasingCombination n m (jthCombinationNoRepl n m j) :=
  (jthCombinationNoRepl_bij n m).maps j hj

theorem jthCombinationNoRepl_inj (n m j₁ j₂ : Nat) (hm : m ≤ n)
    (h₁ : j₁ < nChooseM n m) (h₂ : j₂ < nChooseM n m)
    (h : jthCombinationNoRepl n m j₁ = jthCombinationNoRepl n m j₂) : j₁ = j₂ :=
  (jthCombinationNoRepl_bij n m).inj j₁ j₂ h₁ h₂ h

theorem jthCombinationNoRepl_surj (n m : Nat) (w : List Nat) (hw : IsDecreasingCombination n m w) :
    ∃ j, j < nChooseM n m ∧ jthCombinationNoRepl n m j = w :=
  (jthCombinationNoRepl_bij n m).surj w hw

theorem constructWithCopies_range (cs : List Nat) (idx : Nat) (h : idx < countRemaining cs) :
    ∃ w, constructWithCopies cs.length cs.sum idx cs = .ok w ∧ IsMultisetPermutation cs w :=
  (constructWithCopies_bij cs).maps idx h

theorem constructWithCopies_inj (cs : List Nat) (i₁ i₂ : Nat)
    (h₁ : i₁ < countRemaining cs) (h₂ : i₂ < countRemaining cs)
    (h : constructWithCopies cs.length cs.sum i₁ cs = constructWithCopies cs.length cs.sum i₂ cs) : i₁ = i₂ :=
  (constructWithCopies_bij cs).inj i₁ i₂ h₁ h₂ h

theorem constructWithCopies_surj (cs : List Nat) (w : List Nat) (hw : IsMultisetPermutation cs w) :
    ∃ idx, idx < countRemaining cs ∧ constructWithCopies cs.length cs.sum idx cs = .ok w :=
  (constructWithCopies_bij cs).surj_ok hw

theorem jthPrefix_range (q : Nat) (a : Avail) (firstN j : Nat) (ha : a.WF q) (hq : 0 < q ∨ firstN = 0)
    (hj : j < countPrefixes q a firstN) :
    ∃ w, jthPrefix q a firstN j = .ok (some w) ∧ IsBoundedPrefix q a firstN w :=
  (jthPrefix_bij q a firstN).maps j hj

theorem jthPrefix_inj (q : Nat) (a : Avail) (firstN j₁ j₂ : Nat) (ha : a.WF q)
    (h₁ : j₁ < countPrefixes q a firstN) (h₂ : j₂ < countPrefixes q a firstN)
    (h : jthPrefix q a firstN j₁ = jthPrefix q a firstN j₂) : j₁ = j₂ :=
  (jthPrefix_bij q a firstN).inj j₁ j₂ h₁ h₂ h

theorem jthPrefix_surj (q : Nat) (a : Avail) (firstN : Nat) (ha : a.WF q) (w : List Nat)
    (hw : IsBoundedPrefix q a firstN w) :
    ∃ j, j < countPrefixes q a firstN ∧ jthPrefix q a firstN j = .ok (some w) :=
  (jthPrefix_bij q a firstN).surj _ ⟨w, rfl, hw⟩

/-- Non-vacuity. -/
example : jthPermutationPrefix 4 2 7 = .ok [3, 1] ∧ countPrefixes 3 (.uniform 2) 4 = 54
    ∧ jthPrefix 2 (.counters [1, 2]) 2 1 = .ok (some [0, 1]) := ⟨rfl, rfl, rfl⟩

end SPModel.C13
