/-
  C25 / C26 — repetition windows.  A constraint given to a block of length `len` with preamble `pre`
  applies, after Repeat/Merge/Nest, to the windows `[j*(len-pre), j*(len-pre)+len)` (all shifted by
  `preambles.head - pre` under POST_PREAMBLE alignment); a constraint given to the combinator, to the
  whole sequence.  Also here: `ceilDiv_spec` (C16: the crossing weight) and `runs_total` (the runs of `Spec.runs`
  add up to the count `ExactlyK` reads).
-/
import SPModel.Spec
import SPProofs.Basic.List
import SPProofs.SpecLemmas.Runs

namespace SPModel.C26
open SPModel SPModel.Spec

theorem windows_global (g : Geo) (c : ConstraintD) (k : Nat) :
    windowsOf g { c := c, scope := none, sustain := k } = [(0, g.n)] := by
  simp [windowsOf]

/-- `r` whole repetitions of a block without preamble, not POST_PREAMBLE-aligned: the windows tile `[0, n)` -/
theorem windows_tile (g : Geo) (c : ConstraintD) (len r : Nat) (hlen : 0 < len) (hn : g.n = r * len)
    (hal : g.align ≠ .postPreamble) :
    windowsOf g { c := c, scope := some (len, 0), sustain := 1 } = (List.range r).map (fun j => (j * len, j * len + len)) := by
  have hr : r ≤ g.n + 1 := hn ▸ Nat.le_succ_of_le (Nat.le_mul_of_pos_right r hlen)
  -- the offset is 0: `simp` takes the catch-all branch of the `match` on the alignment, finding `hal` in the context
  simp only [windowsOf, Nat.sub_zero, Nat.ne_of_gt hlen, if_false, Nat.zero_add]
  rw [← Nat.add_sub_cancel' hr, List.range_add, List.filterMap_append,
    List.filterMap_eq_map_of_some (h := fun j => (j * len, j * len + len)),
    List.filterMap_eq_nil_iff.2, List.append_nil]
  · simp only [List.mem_map, List.mem_range]
    rintro _ ⟨j, _, rfl⟩
    exact if_neg (hn ▸ Nat.not_lt.2 (Nat.mul_le_mul_right len (Nat.le_add_right r j)))
  · intro j hj
    exact if_pos (hn ▸ Nat.mul_lt_mul_of_pos_right (List.mem_range.1 hj) hlen)

/-- C16: the crossing weight is the least number of copies of the crossing that covers the trials -/
theorem ceilDiv_spec (a b : Nat) (hb : 0 < b) : a ≤ ceilDiv a b * b ∧ (0 < a → (ceilDiv a b - 1) * b < a) := by
  rw [ceilDiv, if_neg (Nat.ne_of_gt hb), Nat.sub_mul, Nat.one_mul]
  refine ⟨Nat.le_of_add_le_add_right (Nat.le_of_pred_lt (Nat.lt_div_mul_add hb)), fun ha => ?_⟩
  calc (a + b - 1) / b * b - b ≤ a + b - 1 - b := Nat.sub_le_sub_right (Nat.div_mul_le_self ..) b
    _ = a - 1 := by rw [Nat.sub_right_comm, Nat.add_sub_cancel]
    _ < a := Nat.sub_one_lt (Nat.ne_of_gt ha)

/-- `C01.runs_sum` for `Spec.runs`: links the run-length and the counting constraints of the specification -/
theorem runs_total (l : Nat) (xs : List (Option Nat)) : (runs l xs).foldl (· + ·) 0 = (xs.filter (· == some l)).length := by
  rw [SpecLemmas.runs_eq_compile, ← List.sum_eq_foldl_nat, Compile.sum_runs, List.filter_map, List.length_map]
  rfl

end SPModel.C26
