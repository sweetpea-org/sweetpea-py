/-
  C11 — the formula-to-CNF conversions of `sweetpea/_internal/logic.py` (model: `SPModel.Logic`) preserve
  meaning, for every formula over non-zero integer literals below the first fresh variable `n`
  (`f.WF n`): Tseitin, naive, switching (the last partially: the model takes fuel).
-/
import SPProofs.Logic.Lemmas
import SPProofs.Logic.Tseitin
import SPProofs.Logic.Naive
import SPProofs.Logic.Switch

namespace SPModel.C11
open SPModel

/-- `to_cnf_tseitin`: the clauses, restricted to the variables below `n`, have exactly the formula's models. -/
theorem tseitin_models (f : Formula) (n : Nat) (hn : 0 < n) (hf : f.WF n) (σ : Assign) :
    f.eval σ = true ↔ ∃ τ, AgreeBelow n σ τ ∧ cnfSat τ (toCnfTseitin f n).cnf = true := by
  obtain ⟨D, hD, hsat, _⟩ := toCnfTseitin_spec f n hn hf
  constructor
  · intro hσ
    obtain ⟨τ, hag, hτ⟩ := hD.ex_agree σ
    exact ⟨τ, hag, (hsat τ).2 ⟨hτ, eval_congr hag f hf ▸ hσ⟩⟩
  · rintro ⟨τ, hag, hτ⟩
    exact eval_congr hag f hf ▸ ((hsat τ).1 hτ).2

/-- The new variables are determined by the old ones. -/
theorem tseitin_unique (f : Formula) (n : Nat) (hn : 0 < n) (hf : f.WF n) (τ₁ τ₂ : Assign)
    (h₁ : cnfSat τ₁ (toCnfTseitin f n).cnf = true) (h₂ : cnfSat τ₂ (toCnfTseitin f n).cnf = true)
    (hag : AgreeBelow n τ₁ τ₂) : AgreeBelow (toCnfTseitin f n).next τ₁ τ₂ := by
  obtain ⟨D, hD, hsat, _⟩ := toCnfTseitin_spec f n hn hf
  exact hD.uniq ((hsat τ₁).1 h₁).1 ((hsat τ₂).1 h₂).1 hag

/-- Every variable of the output is one of the formula's or lies in the fresh range `[n, next)` reported. -/
theorem tseitin_range (f : Formula) (n : Nat) (hn : 0 < n) (hf : f.WF n) :
    n ≤ (toCnfTseitin f n).next ∧
    ∀ c ∈ (toCnfTseitin f n).cnf, ∀ l ∈ c,
      l ≠ 0 ∧ l.natAbs < (toCnfTseitin f n).next ∧ (l.natAbs < n → l.natAbs ∈ f.vars) := by
  obtain ⟨D, hD, _, hlits⟩ := toCnfTseitin_spec f n hn hf
  exact ⟨hD.le, hlits⟩

/-- `cnf_to_json` accepts the tree Tseitin returns and yields exactly its clauses. -/
theorem tseitin_toJson (f : Formula) (n : Nat) :
    cnfToJson [(toCnfTseitin f n).toFormula] = .ok (toCnfTseitin f n).cnf :=
  cnfToJson_tseitin _

/-- The naive conversion is logically equivalent and introduces no variables. -/
theorem naive_equiv (f : Formula) (σ : Assign) : (toCnfNaive f).eval σ = f.eval σ :=
  (eval_wrapAnd σ _).trans ((eval_distNaive σ _).trans (eval_nnf σ f))

theorem naive_vars (f : Formula) : ∀ v ∈ (toCnfNaive f).vars, v ∈ f.vars :=
  fun v h => vars_nnf f v (vars_distNaive _ v (vars_wrapAnd _ v h))

/-- `to_cnf_switching`, partial correctness: if the fuelled model returns normally, the result is over
    variables below `n'` and has the formula's models on the variables below `n`. -/
theorem switching_models_partial (fuel : Nat) (f g : Formula) (n n' : Nat) (hn : 0 < n) (hf : f.WF n)
    (h : toCnfSwitching fuel f n = .ok (g, n')) (σ : Assign) :
    n ≤ n' ∧ g.WF n' ∧ (f.eval σ = true ↔ ∃ τ, AgreeBelow n σ τ ∧ g.eval τ = true) := by
  obtain ⟨⟨le, snd, cmp⟩, gwf⟩ := Switch.toCnfSwitching_sem fuel f g n n' hn hf h
  refine ⟨le, gwf, fun hσ => ?_, fun ⟨τ, ag, hτ⟩ => eval_congr ag f hf ▸ snd τ hτ⟩
  obtain ⟨τ, ag, hτ⟩ := cmp σ
  exact ⟨τ, ag, hτ.trans hσ⟩

/-- Non-vacuity: a concrete formula with a shared sub-formula (cache hit), an
    implication and a negative literal. -/
example : (toCnfTseitin (.and [.or [.lit 1, .lit (-2)], .imp (.lit 1) (.or [.lit 1, .lit (-2)])]) 3).next = 6 := by
  decide

end SPModel.C11
