/-
  C21 — tabulation counts are exact (`SPModel.Api.tabulate`).
-/
import SPModel.Api
import SPProofs.Misc.Api

namespace SPModel.C21
open SPModel SPModel.Api

/-- row `t` over the columns `names`; `none` when a column has no entry there -/
def rowAt (e : Exp) (names : List String) (t : Nat) : Option (List String) :=
  names.mapM (fun n => match e.get n with
    | .ok col => col[t]?
    | .error _ => none)

theorem rowAt_eq_rowOf : rowAt = rowOf := rfl

/-- the counting loop computes the number of selected trials showing the combination -/
theorem frequency_eq (e : Exp) (names : List String) (trials : List Nat) (combo : List String)
    (hlen : combo.length = names.length)
    (hrows : ∀ t ∈ trials, (rowAt e names t).isSome) :
    frequency e names trials combo = .ok ((trials.filter (fun t => rowAt e names t == some combo)).length) := by
  rw [rowAt_eq_rowOf] at hrows ⊢
  unfold frequency
  rw [foldlM_count _ (fun t => rowOf e names t == some combo) trials 0]
  · simp
  · intro t ht acc
    obtain ⟨row, hrow⟩ := Option.isSome_iff_exists.mp (hrows t ht)
    simp only [rowMatches_eq e t names combo row hlen hrow, hrow, Option.some_beq_some]
    cases row == combo <;> rfl

/-- the table lists every combination of level names once, in product order, with that count -/
theorem tabulate_eq (factors : List (String × List String)) (trials : List Nat) (e : Exp)
    (hne : trials ≠ []) (hrows : ∀ t ∈ trials, (rowAt e (factors.map (·.1)) t).isSome) :
    tabulate factors trials e = .ok ((product (factors.map (·.2))).map (fun combo =>
      (combo, (trials.filter (fun t => rowAt e (factors.map (·.1)) t == some combo)).length))) := by
  unfold tabulate
  apply List.mapM_ok_of_forall
  intro combo hc
  have hlen : combo.length = (factors.map (·.1)).length := by
    rw [length_of_mem_product _ combo hc]
    simp
  rw [frequency_eq e _ trials combo hlen hrows]
  simp [List.isEmpty_eq_false_iff.2 hne]

end SPModel.C21
