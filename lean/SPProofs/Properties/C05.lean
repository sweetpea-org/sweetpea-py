/-
  C05 / C06 — for one round of `n` crossing trials (a full round or the leftover round), RandomGen's candidates
  (`InRange`) and the valid rounds (`ValidRound`) correspond one to one (`round_sound`, `round_inj`, `round_surj`,
  the three fields of `RandomGen.round_bij`), and `__count_solutions` returns the number of candidates (`count_eq`).
  About `SPModel.RandomGen`, the model of `UCSolutionEnumerator.generate_trial_values` / `__count_solutions`;
  correspondence I9 ties it to the code and evaluates `EnumData.wf` and `plainOnce` on every real block.

  Not claimed: that candidates are drawn with equal probability.  RandomGen draws the permutation uniformly and
  then the source indices with permutation-dependent bounds (known finding F15), so that holds only when every
  instance has the same number of compatible source combinations or a whole unweighted round of plain permutations
  is drawn (`perInstance`).  Proof notes: `SPProofs/RandomGen/NOTES.md`.
-/
import SPProofs.RandomGen.Count

namespace SPModel.C05
open SPModel Comb SPModel.RandomGen

theorem round_sound (d : EnumData) (n : Nat) (hwf : d.wf n = true) (c : Components) (hc : InRange d n c) :
    ∃ tvs, generateTrialValues d c n = .ok tvs ∧ ValidRound d n tvs :=
  (round_bij (wf_unpack hwf)).maps c hc

theorem round_inj (d : EnumData) (n : Nat) (hwf : d.wf n = true) (c₁ c₂ : Components)
    (h₁ : InRange d n c₁) (h₂ : InRange d n c₂)
    (h : generateTrialValues d c₁ n = generateTrialValues d c₂ n) : c₁ = c₂ :=
  (round_bij (wf_unpack hwf)).inj c₁ c₂ h₁ h₂ h

theorem round_surj (d : EnumData) (n : Nat) (hwf : d.wf n = true) (tvs : List TrialValue)
    (hv : ValidRound d n tvs) : ∃ c, InRange d n c ∧ generateTrialValues d c n = .ok tvs :=
  (round_bij (wf_unpack hwf)).surj_ok hv

/-
  `countSolutions d n = .ok (candidates d n)` does not follow from `d.wf n = true` alone (`counterexample` below:
  4 candidates, `countSolutions` returns 3): with `simplePerm` the candidates' permutations come from
  `jthPermutationPrefix`, but `sumCombinationProducts` sums over `jthPrefix d.q d.avail`, and `EnumData.wf` does not
  tie `avail` to `simplePerm` (in the code `simplePerm` implies `_m_or_counters == 1`).  Hence `hs`: every instance
  is available exactly once (`EnumData.plainOnce` is its decidable form, `count_eq`), or one of the two formulas
  that do not enumerate prefixes is used.
-/

theorem count_eq_partial (d : EnumData) (n : Nat) (hwf : d.wf n = true)
    (hs : d.simplePerm = true →
      (∀ i, i < d.q → d.avail.at i = 1) ∨
      ((shapes d).all (fun s => s == (shapes d).headD 0) && uniformM d.avail) = true ∨
      perInstance d n = true) :
    countSolutions d n = .ok (candidates d n) :=
  countSolutions_eq (wf_unpack hwf) hs

/-- what `UCSolutionEnumerator` guarantees: plain permutations are used only when `_m_or_counters == 1` -/
theorem count_eq_of_uniform_one (d : EnumData) (n : Nat) (hwf : d.wf n = true)
    (hs : d.simplePerm = true → d.avail = .uniform 1) : countSolutions d n = .ok (candidates d n) :=
  count_eq_partial d n hwf (fun h => Or.inl (fun i _ => by rw [hs h]; rfl))

/-- `__count_solutions` returns the number of candidates, for every enumerator that meets the two decidable
    conditions the correspondence check evaluates on real blocks (`wf`, `plainOnce`). -/
theorem count_eq (d : EnumData) (n : Nat) (hwf : d.wf n = true) (hp : d.plainOnce = true) :
    countSolutions d n = .ok (candidates d n) := by
  refine count_eq_of_uniform_one d n hwf (fun hs => ?_)
  unfold EnumData.plainOnce at hp
  rw [hs] at hp
  cases ha : d.avail with
  | uniform m => simp [ha] at hp; rw [hp]
  | counters cs => simp [ha] at hp

theorem count_eq_of_not_simplePerm (d : EnumData) (n : Nat) (hwf : d.wf n = true)
    (hs : d.simplePerm = false) : countSolutions d n = .ok (candidates d n) :=
  count_eq_partial d n hwf (fun h => by rw [hs] at h; cases h)

/-- `count_eq` without the extra hypothesis fails: plain permutations with every instance available twice. -/
def counterexample : EnumData :=
  { q := 2, avail := .uniform 2, simplePerm := true, unweighted := false,
    valid := [[0], [0, 1]], indLevels := [] }

example : counterexample.wf 2 = true ∧ countSolutions counterexample 2 = .ok 3 ∧ candidates counterexample 2 = 4 := by
  decide

/-- Non-vacuity: 3 instances, the third usable twice, varying numbers of compatible source combinations, one
    independent factor with two levels, rounds of 2 trials. -/
def demo : EnumData :=
  { q := 3, avail := .counters [1, 1, 2], simplePerm := false, unweighted := false,
    valid := [[0], [1, 2], [0, 1, 2]], indLevels := [2] }

example : demo.wf 2 = true ∧ countSolutions demo 2 = .ok 124 := by decide

end SPModel.C05
