/-
  C15 — a derived factor whose level tables partition the window tuples gives
  every applicable trial exactly one level.  Theorem about `SPModel.Spec.matching`.
-/
import SPModel.Spec
import SPProofs.Basic.List

namespace SPModel.C15
open SPModel SPModel.Spec

/-- tables partition the keys: for every key exactly one level's table is true -/
def Partition (f : FactorD) : Prop :=
  ∀ key : Nat, ∃ i, i < f.levels.length ∧
    (((f.levels[i]?).map (fun l => l.table.getD key false)).getD false = true) ∧
    ∀ j, j < f.levels.length → (((f.levels[j]?).map (fun l => l.table.getD key false)).getD false = true) → j = i

/-- the same at one key.  `Partition` asks it of *every* natural number, which no factor meets (a table is a finite
    array, read as `false` beyond its end); the theorems of other files use this pointwise form. -/
def UniqueAt (f : FactorD) (key : Nat) : Prop :=
  ∃ i, i < f.levels.length ∧
    (((f.levels[i]?).map (fun l => l.table.getD key false)).getD false = true) ∧
    ∀ j, j < f.levels.length → (((f.levels[j]?).map (fun l => l.table.getD key false)).getD false = true) → j = i

theorem matching_unique_at (d : Design) (f : FactorD) (w : WindowD) (look : Nat → Nat → Option Nat) (t : Nat)
    (h : UniqueAt f (windowKey d w look t)) : ∃ i, matching d f w look t = [i] ∧ i < f.levels.length := by
  obtain ⟨i, hi, hpi, huniq⟩ := h
  refine ⟨i, ?_, hi⟩
  unfold matching
  exact List.filter_eq_singleton List.nodup_range (List.mem_range.mpr hi) hpi
    (fun j hj hpj => huniq j (List.mem_range.mp hj) hpj)

theorem matching_unique (d : Design) (f : FactorD) (w : WindowD) (look : Nat → Nat → Option Nat) (t : Nat)
    (h : Partition f) : ∃ i, matching d f w look t = [i] ∧ i < f.levels.length :=
  matching_unique_at d f w look t (h _)

/-- two levels accepting the same window make `matching` return more than one level (the sequence is then invalid) -/
theorem matching_overlap (d : Design) (f : FactorD) (w : WindowD) (look : Nat → Nat → Option Nat) (t i j : Nat)
    (hi : i < f.levels.length) (hj : j < f.levels.length) (hij : i < j)
    (h1 : ((f.levels[i]?).map (fun l => l.table.getD (windowKey d w look t) false)).getD false = true)
    (h2 : ((f.levels[j]?).map (fun l => l.table.getD (windowKey d w look t) false)).getD false = true) :
    2 ≤ (matching d f w look t).length := by
  apply List.two_le_length_of_mem (a := i) (b := j)
  · exact List.mem_filter.mpr ⟨List.mem_range.mpr hi, h1⟩
  · exact List.mem_filter.mpr ⟨List.mem_range.mpr hj, h2⟩
  · exact Nat.ne_of_lt hij

end SPModel.C15
