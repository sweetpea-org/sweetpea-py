/-
  C09 — without-replacement sampling returns distinct sequences, as many as exist.  About
  `SPModel.Sampler.iterate` (the model of `compute_solutions` + `update_file`) over any solver that is `Sound` and
  `Complete` — the assumption under which the SAT back end is trusted.
-/
import SPModel.Sampler
import SPProofs.Misc.Sampler

namespace SPModel.C09
open SPModel SPModel.Sampler

def Sound (solve : Solver) : Prop := ∀ φ τ, solve φ = some τ → cnfSat τ φ = true
def Complete (solve : Solver) : Prop := ∀ φ, solve φ = none → ∀ τ, cnfSat τ φ = false

/-- the blocking clause excludes exactly the assignments with that support projection -/
theorem blocking_iff (s : Nat) (τ σ : Assign) :
    clauseSat σ (blocking (project s τ)) = true ↔ project s σ ≠ project s τ := by
  have hne : ∀ l ∈ project s τ, l ≠ 0 := by
    rw [project_eq_map, List.forall_mem_map]
    exact fun i _ => projLit_ne_zero τ i
  rw [clauseSat_blocking σ _ hne, Ne, project_eq_iff, project_eq_map, List.forall_mem_map]
  simp only [List.mem_range, litVal_projLit]

theorem iterate_length_le (solve : Solver) (s n : Nat) (φ : Cnf) : (iterate solve s n φ).length ≤ n := by
  fun_induction iterate solve s n φ with
  | case1 => exact Nat.le_refl 0
  | case2 => exact Nat.zero_le _
  | case3 _ _ _ _ _ ih => exact Nat.succ_le_succ ih

/-- every returned sequence is the support projection of a model of the formula -/
theorem iterate_models (solve : Solver) (hs : Sound solve) (s n : Nat) (φ : Cnf) :
    ∀ sol ∈ iterate solve s n φ, ∃ τ, cnfSat τ φ = true ∧ project s τ = sol := by
  fun_induction iterate solve s n φ with
  | case1 => exact fun _ h => nomatch h
  | case2 => exact fun _ h => nomatch h
  | case3 n φ τ h _ ih =>
    intro sol hsol
    rcases List.mem_cons.mp hsol with rfl | hsol
    · exact ⟨τ, hs φ τ h, rfl⟩
    · obtain ⟨τ', hsat, hp⟩ := ih sol hsol
      rw [cnfSat_append_singleton, Bool.and_eq_true] at hsat
      exact ⟨τ', hsat.1, hp⟩

theorem iterate_distinct (solve : Solver) (hs : Sound solve) (s n : Nat) (φ : Cnf) :
    (iterate solve s n φ).Nodup := by
  fun_induction iterate solve s n φ with
  | case1 => exact List.nodup_nil
  | case2 => exact List.nodup_nil
  | case3 n φ τ h _ ih =>
    refine List.nodup_cons.mpr ⟨fun hmem => ?_, ih⟩
    obtain ⟨τ', hsat, hp⟩ := iterate_models solve hs s n _ _ hmem
    rw [cnfSat_append_singleton, Bool.and_eq_true] at hsat
    exact (blocking_iff s τ τ').mp hsat.2 hp

/-- soundness is not needed for this direction -/
theorem iterate_exhaustive_of_complete (solve : Solver) (hc : Complete solve) (s n : Nat) (φ : Cnf)
    (hlt : (iterate solve s n φ).length < n) :
    ∀ τ, cnfSat τ φ = true → project s τ ∈ iterate solve s n φ := by
  fun_induction iterate solve s n φ with
  | case1 => exact absurd hlt (Nat.not_lt_zero _)
  | case2 n φ h => exact fun τ hτ => by rw [hc φ h τ] at hτ; cases hτ
  | case3 n φ τ0 h _ ih =>
    intro τ hτ
    by_cases heq : project s τ = project s τ0
    · exact List.mem_cons.mpr (Or.inl heq)
    · refine List.mem_cons.mpr (Or.inr (ih (Nat.lt_of_succ_lt_succ hlt) τ ?_))
      rw [cnfSat_append_singleton, Bool.and_eq_true]
      exact ⟨hτ, (blocking_iff s τ0 τ).mpr heq⟩

/-- if fewer than requested come back, every solution has been returned -/
theorem iterate_exhaustive (solve : Solver) (_hs : Sound solve) (hc : Complete solve) (s n : Nat) (φ : Cnf)
    (hlt : (iterate solve s n φ).length < n) :
    ∀ τ, cnfSat τ φ = true → project s τ ∈ iterate solve s n φ :=
  iterate_exhaustive_of_complete solve hc s n φ hlt

end SPModel.C09
