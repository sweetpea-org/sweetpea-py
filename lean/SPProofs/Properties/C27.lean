/-
  C27 — solver input and output text is faithful.  About `SPModel.Text`, at the level of token lines (what
  `str.split()` yields per line; `str.split`, `int()` and `str()` are trusted and checked per instance by the
  correspondence run).
-/
import SPProofs.Text.Parse
import SPProofs.Misc.Sampler

namespace SPModel.C27
open SPModel SPModel.Text

def ClausesOK (vals : List Clause) : Prop := ∀ c ∈ vals, c ≠ [] ∧ ∀ l ∈ c, l ≠ 0

/-- The header declares the given variable count and exactly the number of clauses. -/
theorem header_declares (vals : List Clause) (nv : Nat) (support : List Int) :
    (unigenLines vals nv support).head? = some (headerLine nv vals.length) ∧
    (dimacsLines vals nv).head? = some (headerLine nv vals.length) := by
  exact ⟨rfl, rfl⟩

/-- `len({abs(v)})`: the declared count of a freshly constructed CNF covers every variable used, once. -/
theorem distinctVars_complete (vals : List Clause) :
    (distinctVars vals).Nodup ∧ ∀ c ∈ vals, ∀ l ∈ c, l.natAbs ∈ distinctVars vals := by
  refine ⟨List.nodup_eraseDups _, fun c hc l hl => ?_⟩
  rw [distinctVars, List.mem_eraseDups, List.mem_map]
  exact ⟨l, List.mem_flatten.2 ⟨c, hc, hl⟩, rfl⟩

/-- `parse_cnf_file` recovers the clauses (in printed order), the sampling set `1..support` and the declared
    variable count. -/
theorem parse_print (vals : List Clause) (nv sup : Nat) (h : ClausesOK vals) :
    parseCnfFile (unigenLines vals nv (rangeSupport sup))
      = .ok { clauses := vals.reverse, sampling := rangeSupport sup, nvars := (nv : Int) } := by
  rw [parseCnfFile_unigen vals nv _ h (rangeSupport_ne_zero sup), sortedSet_rangeSupport]

/-- The DIMACS reader in front of pycryptosat recovers the same clauses. -/
theorem pycrypto_parse_print (vals : List Clause) (nv sup : Nat) (h : ClausesOK vals) :
    parsePycrypto (unigenLines vals nv (rangeSupport sup)) = .ok (vals.reverse, (nv : Int)) :=
  parsePycrypto_unigen vals nv (rangeSupport sup) fun c hc => (h c hc).1

/-- `update_file` on a file the library wrote: header count + 1, and the re-parsed file has the old clauses plus the
    negated solution. -/
theorem update_parse (vals : List Clause) (nv sup : Nat) (sol : List Int) (h : ClausesOK vals)
    (hs : sol ≠ [] ∧ ∀ l ∈ sol, l ≠ 0) :
    ∃ ls', updateFile (stripLines (unigenLines vals nv (rangeSupport sup))) sol = .ok ls' ∧
      ls'.head? = some (headerLine nv (vals.length + 1)) ∧
      parseCnfFile ls' = .ok { clauses := vals.reverse ++ [sol.map (fun x => -x)],
                               sampling := rangeSupport sup, nvars := (nv : Int) } := by
  simpa only [sortedSet_rangeSupport] using
    updateFile_unigen vals nv (rangeSupport sup) sol h (rangeSupport_ne_zero sup) hs.1 hs.2

/-- The added clause excludes exactly the assignments that agree with the previous solution on its variables. -/
theorem update_models (φ : List Clause) (sol : List Int) (hs : ∀ l ∈ sol, l ≠ 0) (τ : Assign) :
    cnfSat τ (φ ++ [sol.map (fun x => -x)]) = true ↔
      (cnfSat τ φ = true ∧ ¬ (∀ l ∈ sol, litVal τ l = true)) := by
  rw [cnfSat_append_singleton, Bool.and_eq_true]
  exact and_congr_right fun _ => Sampler.clauseSat_blocking τ sol hs

/-- Parsed solver output is the solver's assignment followed by the terminating 0; cutting it to the support keeps
    the first `support` literals. -/
theorem solve_parse (model : List Int) (support : Nat) (hsup : support ≤ model.length) :
    parseSolveOutput (solveOutputLines model) = .ok (model ++ [0]) ∧
    (model ++ [0]).take support = model.take support := by
  refine ⟨?_, List.take_append_of_le_length hsup⟩
  simp [solveOutputLines, parseSolveOutput, tokInts_map_zero]

/-- `build_solution` on a UniGen sample line. -/
theorem buildSolution_line (lits : List Int) (f : Int) :
    buildSolution (Tok.v :: (lits.map Tok.int ++ [Tok.colon f])) = .ok (lits, f) := by
  have hf : ∀ a ∈ lits.map Tok.int ++ [Tok.colon f], decide (a ≠ Tok.v) = true := by
    intro a ha
    rcases List.mem_append.1 ha with h | h
    · obtain ⟨i, -, rfl⟩ := List.mem_map.1 h
      rfl
    · cases List.mem_singleton.1 h
      rfl
  rw [buildSolution, List.filter_cons_of_neg (by simp), List.filter_eq_self.2 hf]
  simp [tokInts_map]

example : parseCnfFile (unigenLines [[1, -2], [3]] 3 (rangeSupport 2))
    = .ok { clauses := [[3], [1, -2]], sampling := [1, 2], nvars := 3 } := rfl

end SPModel.C27
