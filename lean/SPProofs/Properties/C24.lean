/-
  C24 — laws (1), (2) of the documented combinator equivalences: `Spec.geo` gives both sides the same trial count,
  crossings, preambles, sizes, constraints and design.  `align`, `rcc`, `error` are left out, and `error` does differ:
  a CrossBlock is EQUAL_PREAMBLE, so under another alignment the Merge side is the error "blocks have different
  alignments" (sweetpea's Merge rejects likewise: F28) while `MultiCrossBlock([0], [[0]], PARALLEL_START)` has valid
  sequences.  `hdes` is used in neither proof.  Laws (3)-(5): `Misc/C24Laws.lean`.
-/
import SPModel.Spec
import SPProofs.SpecLemmas.Geo

namespace SPModel.C24
open SPModel SPModel.Spec

/-- law (1): MultiCrossBlock vs Merge of one constraint-free CrossBlock per crossing -/
theorem multiCross_eq_merge (d : Design) (design : List Nat) (crossings : List (List Nat)) (cs : List ConstraintD)
    (rcc : Bool) (mode : Mode) (align : Alignment) (hne : crossings ≠ []) (hdes : design.Nodup) :
    let lhs := geo d (.multiCross design crossings cs rcc mode align)
    let rhs := geo d (.merge (crossings.map (fun c => BlockExpr.cross design c [] rcc)) cs mode (some align))
    lhs.n = rhs.n ∧ lhs.crossings = rhs.crossings ∧ lhs.preambles = rhs.preambles ∧ lhs.sizes = rhs.sizes ∧
      lhs.constraints = rhs.constraints ∧ lhs.design = rhs.design := by
  have hdesign : (crossings.map (fun c => create d design [{ factors := c, sustain := 1, weight := 1 }] [] [] rcc
      .weight .equalPreamble)).foldl (fun acc g => unionIds acc g.design) [] = design := by
    apply SpecLemmas.foldl_unionIds_const_nil (fun g : Geo => g.design) design
    · simpa using hne
    · intro x hx
      obtain ⟨c, _, rfl⟩ := List.mem_map.mp hx
      exact SpecLemmas.create_design ..
  have hcons : (crossings.map (fun c => create d design [{ factors := c, sustain := 1, weight := 1 }] [] [] rcc
      .weight .equalPreamble)).flatMap (·.constraints) = [] := by
    rw [List.flatMap_eq_nil_iff]
    intro x hx
    obtain ⟨c, _, rfl⟩ := List.mem_map.mp hx
    exact SpecLemmas.create_constraints_nil ..
  have _ := hdes
  intro lhs rhs
  simp only [lhs, rhs, geo, SpecLemmas.geoList_eq_map, List.map_map, Function.comp_def, hdesign, hcons]
  refine ⟨rfl, rfl, rfl, rfl, rfl, rfl⟩

/-- law (2): Repeat(b, cs) vs Merge([b], cs, REPEAT, EQUAL_PREAMBLE) -/
theorem repeat_eq_merge (d : Design) (b : BlockExpr) (cs : List ConstraintD) (hdes : (geo d b).design.Nodup) :
    let lhs := geo d (.repeat b cs)
    let rhs := geo d (.merge [b] cs .repeat (some .equalPreamble))
    lhs.n = rhs.n ∧ lhs.crossings = rhs.crossings ∧ lhs.preambles = rhs.preambles ∧ lhs.sizes = rhs.sizes ∧
      lhs.constraints = rhs.constraints ∧ lhs.design = rhs.design := by
  have _ := hdes
  intro lhs rhs
  simp only [lhs, rhs, geo, geoList, List.foldl_cons, List.foldl_nil, SpecLemmas.nil_unionIds,
    List.flatMap_cons, List.flatMap_nil, List.append_nil]
  refine ⟨rfl, rfl, rfl, rfl, rfl, rfl⟩

theorem valid_of_geo (d : Design) (b₁ b₂ : BlockExpr) (h : geo d b₁ = geo d b₂) (s : Seq) :
    validG d (geo d b₁) s = validG d (geo d b₂) s := by
  rw [h]
end SPModel.C24
