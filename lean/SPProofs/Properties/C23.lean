/-
  C23 — weighted levels in the reference semantics: a crossing combination is
  required as often as the product of the weights of its levels.
-/
import SPModel.Spec

namespace SPModel.C23
open SPModel SPModel.Spec

def comboWeight (d : Design) (crossing combo : List Nat) : Nat :=
  (crossing.zip combo).foldl (fun acc p => acc * (((d.factor p.1).levels[p.2]?).map (·.weight)).getD 1) 1

/-- every feasible combination carries the product of its levels' weights -/
theorem feasible_weight (d : Design) (design crossing : List Nat) (excl : List (Nat × Nat)) :
    ∀ cw ∈ feasibleCombos d design crossing excl, cw.2 = comboWeight d crossing cw.1 := by
  intro cw h
  unfold feasibleCombos at h
  simp only [List.mem_map] at h
  obtain ⟨combo, _, rfl⟩ := h
  rfl

/-- single-factor crossing: the combination's weight is the level's weight -/
theorem single_factor_weight (d : Design) (f l : Nat) :
    comboWeight d [f] [l] = (((d.factor f).levels[l]?).map (·.weight)).getD 1 :=
  Nat.one_mul _

end SPModel.C23
