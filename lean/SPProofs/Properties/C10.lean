/-
  C10 — cardinality constraints are encoded exactly (`assert_k_of_n`, `_inequality_assertion`,
  `combine_cnf_with_requests`; model `SPModel.Card`): the emitted clauses have a satisfying extension of an assignment
  σ of the existing variables ⇔ the number of true literals stands in the relation to k, and then the extension is
  unique.  `litCount` counts list positions, so no distinctness hypothesis is needed.  Stated for the code after the fix
  "cardinality assertions with k larger than the variable list"; before it only under `k ≤ n` (EQ, LT) / `k < n` (GT).
-/
import SPProofs.Properties.C12
import SPProofs.Card.Requests

namespace SPModel.C10
open SPModel Builder

/-- The cardinality builders never fail on a non-empty list of valid literals. -/
theorem assert_total (n : Nat) (r : Request) (hne : r.vars ≠ []) (hx : ∀ x ∈ r.vars, LitOK n x) :
    ∃ b', (fromFresh n).applyRequest r = .ok b' ∧ Ext (fromFresh n) b' := by
  obtain ⟨b', h1, h2, _⟩ := applyRequest_spec (fromFresh n) (Closed.fresh n) r hne hx
  exact ⟨b', h1, h2⟩

theorem assertEQ_iff (n k : Nat) (xs : List Int) (hx : ∀ x ∈ xs, LitOK n x) (b' : Builder)
    (h : (fromFresh n).assertKofN k xs = .ok b') (σ : Assign) :
    (∃ τ, Agree n σ τ ∧ cnfSat τ b'.vals = true) ↔ litCount σ xs = k := by
  have hne : xs ≠ [] := by rintro rfl; cases h
  exact (assertKofN_spec (fromFresh n) (Closed.fresh n) k xs hne hx).sat_iff
    (fun σ τ ha => by rw [litCount_congr hx ha]) h σ

theorem assertLT_iff (n k : Nat) (xs : List Int) (hx : ∀ x ∈ xs, LitOK n x) (b' : Builder)
    (h : (fromFresh n).inequalityAssertion true k xs = .ok b') (σ : Assign) :
    (∃ τ, Agree n σ τ ∧ cnfSat τ b'.vals = true) ↔ litCount σ xs < k := by
  have hne : xs ≠ [] := by rintro rfl; cases h
  exact (inequalityAssertion_spec (fromFresh n) (Closed.fresh n) true k xs hne hx).sat_iff
    (fun σ τ ha => by rw [litCount_congr hx ha]) h σ

theorem assertGT_iff (n k : Nat) (xs : List Int) (hx : ∀ x ∈ xs, LitOK n x) (b' : Builder)
    (h : (fromFresh n).inequalityAssertion false k xs = .ok b') (σ : Assign) :
    (∃ τ, Agree n σ τ ∧ cnfSat τ b'.vals = true) ↔ litCount σ xs > k := by
  have hne : xs ≠ [] := by rintro rfl; cases h
  exact (inequalityAssertion_spec (fromFresh n) (Closed.fresh n) false k xs hne hx).sat_iff
    (fun σ τ ha => by rw [litCount_congr hx ha]) h σ

/-- Uniqueness of the satisfying extension, for all three relations. -/
theorem assert_unique (n : Nat) (r : Request) (hx : ∀ x ∈ r.vars, LitOK n x) (b' : Builder)
    (h : (fromFresh n).applyRequest r = .ok b') (τ₁ τ₂ : Assign)
    (h₁ : cnfSat τ₁ b'.vals = true) (h₂ : cnfSat τ₂ b'.vals = true) (hag : Agree n τ₁ τ₂) :
    Agree b'.nvars τ₁ τ₂ := by
  have hne : r.vars ≠ [] := by
    obtain ⟨rel, k, vars⟩ := r
    rintro rfl
    cases rel <;> cases h
  obtain ⟨b'', e, hext, _⟩ := applyRequest_spec (fromFresh n) (Closed.fresh n) r hne hx
  rw [h] at e
  cases e
  have hv := ((Closed.fresh n).ext hext).vals_sat_iff
  exact hext.unique ((hv τ₁).1 h₁) ((hv τ₂).1 h₂) hag

/-- `combine_cnf_with_requests`: the combined clause list has a satisfying extension of σ iff σ satisfies the base
    clauses and every request; the extension is unique on the variables that occur. -/
theorem combine_models (n : Nat) (init : List Clause) (reqs : List Request)
    (hinit : ∀ c ∈ init, ∀ l ∈ c, LitOK n l)
    (hreqs : ∀ r ∈ reqs, r.vars ≠ [] ∧ ∀ x ∈ r.vars, LitOK n x) :
    ∃ φ, combineCnfWithRequests init n reqs = .ok φ ∧
      (∀ σ : Assign, (∃ τ, Agree n σ τ ∧ cnfSat τ φ = true) ↔
          (cnfSat σ init = true ∧ ∀ r ∈ reqs, r.holds σ = true)) ∧
      (∀ τ₁ τ₂ : Assign, cnfSat τ₁ φ = true → cnfSat τ₂ φ = true → Agree n τ₁ τ₂ →
          ∀ v, 1 ≤ v → (∃ c ∈ φ, ∃ l ∈ c, l.natAbs = v) → τ₁ v = τ₂ v) := by
  have spec := applyRequests_spec reqs (fromFresh n) (Closed.fresh n) hreqs
  have ⟨b, e, hext, _⟩ := spec
  have hcl : Closed b := (Closed.fresh n).ext hext
  have hci : ∀ {σ τ : Assign}, Agree n σ τ → cnfSat σ init = cnfSat τ init := fun ha =>
    cnfSat_congr_on fun c hc l hl => (hinit c hc l hl).agree ha
  refine ⟨b.vals ++ init, by simp only [combineCnfWithRequests, e], fun σ => ?_, ?_⟩
  · rw [and_comm, ← spec.sat_iff (fun σ τ ha => forall₂_congr fun r hr => by
      rw [Request.holds_congr r (hreqs r hr).2 ha]) e σ]
    simp only [cnfSat_append, Bool.and_eq_true]
    exact ⟨fun ⟨τ, ha, hs, hi⟩ => ⟨⟨τ, ha, hs⟩, hci ha ▸ hi⟩,
      fun ⟨⟨τ, ha, hs⟩, hi⟩ => ⟨τ, ha, hs, hci ha ▸ hi⟩⟩
  · intro τ₁ τ₂ h₁ h₂ hag v hv hocc
    rw [cnfSat_append, Bool.and_eq_true] at h₁ h₂
    have hagree := hext.unique ((hcl.vals_sat_iff τ₁).1 h₁.1) ((hcl.vals_sat_iff τ₂).1 h₂.1) hag
    obtain ⟨c, hc, l, hl, rfl⟩ := hocc
    rcases List.mem_append.1 hc with hc | hc
    · exact hagree _ hv (hcl.vals_lits c hc l hl)
    · exact hag _ hv (hinit c hc l hl).2

/-- Non-vacuity: "fewer than 2 of 3" meets the hypotheses. -/
example : ∃ b', (fromFresh 3).inequalityAssertion true 2 [1, 2, 3] = .ok b' ∧ b'.nvars = 41 := by
  refine ⟨_, rfl, ?_⟩
  decide

end SPModel.C10
