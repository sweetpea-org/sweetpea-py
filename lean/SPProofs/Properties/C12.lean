/-
  C12 — adder and population-count circuits compute sums, and leave no other freedom (`SPModel.Card`, the model of
  `core/cnf.py`).  Every builder method (1) extends the builder by a `Chain` of definitions of consecutive fresh
  variables (`Ext`; "no other freedom" is `ext_exists_unique`), and (2) in any assignment satisfying the emitted items
  the output bits encode the sum.
-/
import SPProofs.Card.Pop
import SPProofs.Card.Closed

namespace SPModel.C12
open SPModel Builder

/-- Clause level = item level: the clauses Python emits are satisfied exactly when every item holds. -/
theorem vals_sat_iff_holds (n : Nat) (b : Builder) (h : Ext (fromFresh n) b) (τ : Assign) :
    cnfSat τ b.vals = true ↔ b.Holds τ :=
  ((Closed.fresh n).ext h).vals_sat_iff τ

/-- The gate items added between `b` and `b'` have, over any assignment of the variables of `b`, exactly one
    satisfying extension. -/
theorem ext_exists_unique (b b' : Builder) (h : Ext b b') (σ : Assign) :
    ∃ τ : Assign, Agree b.nvars σ τ ∧
      (∀ it ∈ newItems b b', it.out ≠ none → it.holds τ = true) ∧
      ∀ τ' : Assign, Agree b.nvars σ τ' →
        (∀ it ∈ newItems b b', it.out ≠ none → it.holds τ' = true) → Agree b'.nvars τ τ' := by
  obtain ⟨new, e, c⟩ := h
  rw [newItems_eq e]
  simp only [← List.mem_reverse (as := new)]
  obtain ⟨τ, ha, hτ⟩ := c.defines.ex_agree σ
  exact ⟨τ, agreeBelow_succ.1 ha, hτ, fun _ ha' hτ' =>
    agreeBelow_succ.1 (c.defines.uniq hτ hτ' (ha.symm.trans (agreeBelow_succ.2 ha')))⟩

theorem halfAdder_spec (b : Builder) (x y : Int) (hx : LitOK b.nvars x) (hy : LitOK b.nvars y) :
    Ext b (b.halfAdder x y).2 ∧
    LitOK (b.halfAdder x y).2.nvars (b.halfAdder x y).1.1 ∧
    LitOK (b.halfAdder x y).2.nvars (b.halfAdder x y).1.2 ∧
    ∀ τ, (b.halfAdder x y).2.Holds τ →
      2 * (litVal τ (b.halfAdder x y).1.1).toNat + (litVal τ (b.halfAdder x y).1.2).toNat
        = (litVal τ x).toNat + (litVal τ y).toNat :=
  have r := halfAdder_run b x y hx hy
  ⟨r.ext, r.lits _ (.head _), r.lits _ (.tail _ (.head _)), r.sem⟩

theorem fullAdder_spec (b : Builder) (x y c : Int)
    (hx : LitOK b.nvars x) (hy : LitOK b.nvars y) (hc : LitOK b.nvars c) :
    Ext b (b.fullAdder x y (some c)).2 ∧
    LitOK (b.fullAdder x y (some c)).2.nvars (b.fullAdder x y (some c)).1.1 ∧
    LitOK (b.fullAdder x y (some c)).2.nvars (b.fullAdder x y (some c)).1.2 ∧
    ∀ τ, (b.fullAdder x y (some c)).2.Holds τ →
      2 * (litVal τ (b.fullAdder x y (some c)).1.1).toNat + (litVal τ (b.fullAdder x y (some c)).1.2).toNat
        = (litVal τ x).toNat + (litVal τ y).toNat + (litVal τ c).toNat :=
  have r := fullAdder_some_run b x y c hx hy hc
  ⟨r.ext, r.lits _ (.head _), r.lits _ (.tail _ (.head _)), r.sem⟩

theorem saturateAdder_spec (b : Builder) (x y : Int) (cin : Option Int)
    (hx : LitOK b.nvars x) (hy : LitOK b.nvars y) (hc : ∀ c, cin = some c → LitOK b.nvars c) :
    Ext b (b.saturateAdder x y cin).2 ∧
    LitOK (b.saturateAdder x y cin).2.nvars (b.saturateAdder x y cin).1 ∧
    ∀ τ, (b.saturateAdder x y cin).2.Holds τ →
      litVal τ (b.saturateAdder x y cin).1
        = (litVal τ x || litVal τ y || (match cin with | some c => litVal τ c | none => false)) := by
  have r := saturateAdder_run b x y cin hx hy hc
  refine ⟨r.ext, r.lits _ (.head _), fun τ hτ => (r.sem τ hτ).trans ?_⟩
  cases cin <;> rfl

/-- `ripple_carry` on operands of equal, non-zero width: carry and sum bits (most significant first) encode the sum. -/
theorem rippleCarry_spec (b : Builder) (xs ys : List Int)
    (hx : ∀ x ∈ xs, LitOK b.nvars x) (hy : ∀ y ∈ ys, LitOK b.nvars y)
    (hlen : xs.length = ys.length) (hpos : 0 < xs.length) :
    ∃ c ss b', b.rippleCarry xs ys = ((some c, ss), b') ∧ Ext b b' ∧
      ss.length = xs.length ∧ (∀ l ∈ c :: ss, LitOK b'.nvars l) ∧
      ∀ τ, b'.Holds τ → bitsVal τ (c :: ss.reverse) = bitsVal τ xs + bitsVal τ ys := by
  obtain ⟨c, ss, b', heq, hl, r⟩ := rippleCarry_run b xs ys hx hy hlen hpos
  exact ⟨c, ss, b', heq, r.ext, hl, r.lits, r.sem⟩

/-- `ripple_saturate` on operands of equal width `w ≤ saturate_at`: below the saturation width the output is the exact
    `w+1`-bit sum; at it, operands and result are in the saturating representation. -/
theorem rippleSaturate_spec (b : Builder) (xs ys : List Int) (sat : Nat)
    (hx : ∀ x ∈ xs, LitOK b.nvars x) (hy : ∀ y ∈ ys, LitOK b.nvars y)
    (hlen : xs.length = ys.length) (hpos : 0 < xs.length) (hsat : xs.length ≤ sat) :
    ∃ out b', b.rippleSaturate xs ys sat = .ok (out, b') ∧ Ext b b' ∧
      out.length = min (xs.length + 1) sat ∧ (∀ l ∈ out, LitOK b'.nvars l) ∧
      ∀ τ, b'.Holds τ →
        (xs.length < sat → bitsVal τ out = bitsVal τ xs + bitsVal τ ys) ∧
        (xs.length = sat → ∀ cx cy, bitsVal τ xs = satRepr sat cx → bitsVal τ ys = satRepr sat cy →
          bitsVal τ out = satRepr sat (cx + cy)) := by
  obtain ⟨out, b', heq, hl, r⟩ := rippleSaturate_run b xs ys sat hx hy hlen hpos hsat
  refine ⟨out, b', heq, r.ext, hl, r.lits, fun τ hτ => ⟨fun hlt => ?_, fun _ cx cy hcx hcy => ?_⟩⟩
  · rw [r.sem τ hτ, satRepr_bitsVal_add τ hlen hlt]
  · rw [r.sem τ hτ, hcx, hcy, satRepr_add_left, Nat.add_comm, satRepr_add_left, Nat.add_comm]

/-- `pop_count`: the output (most significant first) encodes the number of true input literals — exactly when
    `saturate_at = 0` or the output is narrower than `saturate_at`, otherwise in the saturating representation
    (top bit: count ≥ 2^(s-1); low bits: count mod 2^(s-1)). -/
theorem popCount_spec (b : Builder) (xs : List Int) (sat : Nat)
    (hx : ∀ x ∈ xs, LitOK b.nvars x) (hne : xs ≠ []) :
    ∃ out b', b.popCount xs sat = .ok (out, b') ∧ Ext b b' ∧
      (∀ l ∈ out, LitOK b'.nvars l) ∧
      out.length = (if sat = 0 then clog2 xs.length + 1 else min (clog2 xs.length + 1) (max sat 1)) ∧
      ∀ τ, b'.Holds τ →
        bitsVal τ out = (if sat = 0 ∨ out.length < sat then litCount τ xs else satRepr sat (litCount τ xs)) := by
  obtain ⟨out, b', heq, hlen, r⟩ := popCount_run b xs sat hx hne
  refine ⟨out, b', heq, r.ext, r.lits, ?_, fun τ hτ => stored_eq_ite (r.sem τ hτ)⟩
  rw [hlen]
  split
  · rfl
  · rw [Nat.max_eq_left (Nat.pos_of_ne_zero ‹_›)]

/-- Non-vacuity. -/
example : ((fromFresh 3).popCount [1, 2, 3] 2).toOption.map (fun r => (r.1, r.2.nvars)) = some ([11, 10], 11) := by
  decide

end SPModel.C12
