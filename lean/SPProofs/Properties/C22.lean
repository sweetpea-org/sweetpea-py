/-
  C22 (window part) — what a `ContinuousFactorWindow` hands to the sampling function (`SPModel.Api.windowVal`).
-/
import SPModel.Api

namespace SPModel.C22
open SPModel SPModel.Api

theorem windowVal_length {α} (w s st : Nat) (vals : List α) (i : Nat) : (windowVal w s st vals i).length = w := by
  simp only [windowVal, apply_ite List.length, List.length_replicate, List.length_map, List.length_range,
    ite_self]

/-- before the start, and on trials skipped by the stride, every entry is NaN -/
theorem windowVal_undefined {α} (w s st : Nat) (vals : List α) (i : Nat)
    (h : i < st ∨ (s > 1 ∧ (i - st) % s ≠ 0)) : windowVal w s st vals i = List.replicate w none := by
  rw [windowVal]
  by_cases h' : i < st
  · exact if_pos h'
  · rw [if_neg h', if_pos (h.resolve_left h')]

/-- otherwise entry `k` is the value of the same sequence `k` trials earlier (NaN before trial 0) -/
theorem windowVal_defined {α} (w s st : Nat) (vals : List α) (i k : Nat)
    (h1 : st ≤ i) (h2 : s ≤ 1 ∨ (i - st) % s = 0) (hk : k < w) :
    (windowVal w s st vals i)[k]? = some (if k ≤ i then vals[i - k]? else none) := by
  rw [windowVal, if_neg (Nat.not_lt.2 h1), if_neg fun h => h2.elim (Nat.not_le_of_gt h.1) h.2,
    List.getElem?_map, List.getElem?_range hk]
  rfl

end SPModel.C22
