/-
  C29 (refusal logic) — which designs SMGen refuses.
-/
import SPModel.Conform

namespace SPModel.C29
open SPModel SPModel.Conform

theorem refuses_iff (n : Nat) (kinds windows : List String) :
    smgenRefuses n kinds windows = true ↔
      (n ≠ 1 ∨ (∃ k ∈ kinds, k = "AtMostKInARow" ∨ k = "AtLeastKInARow" ∨ k = "ExactlyK" ∨ k = "Exclude" ∨ k = "Pin")
        ∨ ∃ w ∈ windows, w ≠ "within" ∧ w ≠ "transition") := by
  simp only [smgenRefuses, Bool.or_eq_true, Bool.and_eq_true, List.any_eq_true, bne_iff_ne, beq_iff_eq, or_assoc]

/-- run-length "in a row exactly", Sequential and MinimumTrials are NOT refused (finding F6: they are ignored or mishandled) -/
theorem accepts_unsupported : smgenRefuses 1 ["ExactlyKInARow", "Sequential", "MinimumTrials"] ["within"] = false := by
  decide +kernel

end SPModel.C29
