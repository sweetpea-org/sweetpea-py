/-
  C01 (constraint encodings) — the requests and implications `SPModel.Compile` emits for the run-length
  constraints mean what the constraints say about the runs of the level (`runs`), for every range length
  and every assignment; for every k (AtMostKInARow) or every k > 0 (the others).
-/
import SPModel.Compile
import SPProofs.Compile.Runs
import SPProofs.Compile.Windows
import SPProofs.Compile.AtMost
import SPProofs.Compile.AtLeast
import SPProofs.Compile.ExactRow

namespace SPModel.C01
open SPModel SPModel.Compile

def bits (σ : Assign) (vars : List Int) : List Bool := vars.map (litVal σ)

theorem atMost_iff (k : Nat) (vars : List Int) (σ : Assign) :
    (∀ r ∈ atMostRequests k vars, r.holds σ = true) ↔ ∀ n ∈ runs (bits σ vars), n ≤ k := by
  rw [atMostRequests_iff, bits, runs_iff]

theorem atLeast_iff (k : Nat) (hk : 0 < k) (vars : List Int) (σ : Assign) :
    (∀ f ∈ atLeastFormulas k vars, f.eval σ = true) ↔ ∀ n ∈ runs (bits σ vars), k ≤ n := by
  rw [atLeastFormulas_iff k hk, bits, runs_iff]

theorem exactlyInARow_iff (k : Nat) (hk : 0 < k) (vars : List Int) (σ : Assign) :
    (∀ f ∈ exactlyInARowFormulas k vars, f.eval σ = true) ↔ ∀ n ∈ runs (bits σ vars), n = k := by
  rw [exactlyInARowFormulas_iff k hk, bits, runs_iff]

theorem exactlyK_iff (k : Nat) (hk : 0 < k) (vars : List Int) (σ : Assign) :
    (match exactlyK k vars with
     | .request r => r.holds σ = true
     | .contradiction => False) ↔ ((bits σ vars).filter id).length = k := by
  unfold exactlyK bits
  cases vars with
  | nil => exact ⟨False.elim, fun h => absurd h (Nat.ne_of_lt hk)⟩
  | cons v vs =>
    simp only [List.isEmpty_cons, Bool.false_eq_true, if_false, Request.holds, beq_iff_eq]
    rw [List.filter_map, List.length_map]
    rfl

/-- links the run-length constraints to the counting one (`exactlyK_iff`) -/
theorem runs_sum (xs : List Bool) : (runs xs).foldl (· + ·) 0 = (xs.filter id).length := by
  rw [← List.sum_eq_foldl_nat, sum_runs]

/-- Non-vacuity: the sequence r r r r g r violates "at least 4 in a row" and the encoding rejects it. -/
example : (atLeastFormulas 4 [1, 2, 3, 4, 5, 6]).all (fun f => f.eval (fun v => v != 5)) = false := by decide

end SPModel.C01
