/-
  C17 (run-length part) — the mismatch checker's run counting (`_KInARow.potential_sample_conforms`) is the
  run semantics the encoders are proved against (C01).
-/
import SPModel.Conform
import SPModel.Compile
import SPProofs.Compile.Runs

namespace SPModel.C17
open SPModel SPModel.Conform

/-- The loop bodies differ on a `false` outside a run only: the checker keeps the state, `runs` resets a
    counter that is 0 already. -/
theorem counts_eq_runs (xs : List Bool) : counts xs = Compile.runs xs := by
  refine congrArg (fun f => Compile.runsFinish (xs.foldl f ([], 0))) (funext fun ⟨acc, cur⟩ => funext fun x => ?_)
  cases x
  · cases cur <;> rfl
  · simp

theorem conforms_atMost (k : Nat) (xs : List Bool) :
    conformsRange .atMost k xs = true ↔ ∀ n ∈ Compile.runs xs, n ≤ k := by
  simp only [conformsRange, countsConform, counts_eq_runs, List.all_eq_true, decide_eq_true_eq]

theorem conforms_atLeast (k : Nat) (xs : List Bool) :
    conformsRange .atLeast k xs = true ↔ ∀ n ∈ Compile.runs xs, k ≤ n := by
  simp only [conformsRange, countsConform, counts_eq_runs, List.all_eq_true, decide_eq_true_eq, ge_iff_le]

theorem conforms_exactlyInARow (k : Nat) (xs : List Bool) :
    conformsRange .exactlyInARow k xs = true ↔ ∀ n ∈ Compile.runs xs, n = k := by
  simp only [conformsRange, countsConform, counts_eq_runs, List.all_eq_true, beq_iff_eq]

theorem conforms_exactlyK (k : Nat) (xs : List Bool) :
    conformsRange .exactlyK k xs = true ↔ (xs.filter id).length = k := by
  simp only [conformsRange, countsConform, counts_eq_runs, beq_iff_eq]
  rw [← List.sum_eq_foldl_nat, Compile.sum_runs]

end SPModel.C17
