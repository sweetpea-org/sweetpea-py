/-
  Literals, clauses and assignments of `SPModel.Basic`.
  Two agreement conventions: `Agree n` (variables ≤ n; CNF builder, counter = last variable used) and `AgreeBelow n`
  (variables < n; Tseitin conversion and backend, counter = next free variable); `agreeBelow_succ` relates them.
-/
import SPModel.Basic
import SPProofs.Basic.List

namespace SPModel

theorem litVal_natCast (τ : Assign) (v : Nat) (h : 0 < v) : litVal τ (v : Int) = τ v := by
  rw [litVal, if_pos (Int.natCast_pos.2 h), Int.natAbs_natCast]

theorem litVal_neg (τ : Assign) (l : Int) (h : l ≠ 0) : litVal τ (-l) = !litVal τ l := by
  unfold litVal
  rw [Int.natAbs_neg]
  by_cases hl : 0 < l
  · rw [if_pos hl, if_neg (Int.lt_asymm (Int.neg_neg_of_pos hl))]
  · rw [if_neg hl, if_pos (Int.neg_pos_of_neg (Int.lt_iff_le_and_ne.2 ⟨Int.not_lt.1 hl, h⟩)), Bool.not_not]

theorem litVal_neg_natCast (τ : Assign) {v : Nat} (h : 0 < v) : litVal τ (-(v : Int)) = !τ v := by
  rw [litVal_neg τ v (Int.natCast_ne_zero.2 (Nat.ne_of_gt h)), litVal_natCast τ v h]

theorem litVal_congr_on {σ τ : Assign} {l : Int} (h : σ l.natAbs = τ l.natAbs) :
    litVal σ l = litVal τ l := by
  rw [litVal, litVal, h]

theorem clauseSat_congr_on {σ τ : Assign} {c : Clause} (h : ∀ l ∈ c, σ l.natAbs = τ l.natAbs) :
    clauseSat σ c = clauseSat τ c :=
  List.any_congr_mem fun l hl => litVal_congr_on (h l hl)

theorem cnfSat_congr_on {σ τ : Assign} {φ : Cnf} (h : ∀ c ∈ φ, ∀ l ∈ c, σ l.natAbs = τ l.natAbs) :
    cnfSat σ φ = cnfSat τ φ :=
  List.all_congr_mem fun c hc => clauseSat_congr_on (h c hc)

theorem cnfSat_append (τ : Assign) (φ ψ : Cnf) : cnfSat τ (φ ++ ψ) = (cnfSat τ φ && cnfSat τ ψ) :=
  List.all_append

theorem cnfSat_append_singleton (τ : Assign) (φ : Cnf) (c : Clause) :
    cnfSat τ (φ ++ [c]) = (cnfSat τ φ && clauseSat τ c) := by
  rw [cnfSat_append]; simp [cnfSat]

/-- `σ` and `τ` agree on the variables `1 … n-1` (everything below the first fresh variable). -/
def AgreeBelow (n : Nat) (σ τ : Assign) : Prop := ∀ v, 1 ≤ v → v < n → σ v = τ v

theorem Agree.refl (n : Nat) (σ : Assign) : Agree n σ σ := fun _ _ _ => rfl

theorem Agree.symm {n : Nat} {σ τ : Assign} (h : Agree n σ τ) : Agree n τ σ :=
  fun v h1 h2 => (h v h1 h2).symm

theorem Agree.trans {n : Nat} {σ τ ρ : Assign} (h : Agree n σ τ) (h' : Agree n τ ρ) : Agree n σ ρ :=
  fun v h1 h2 => (h v h1 h2).trans (h' v h1 h2)

theorem Agree.mono {n m : Nat} {σ τ : Assign} (h : Agree m σ τ) (hnm : n ≤ m) : Agree n σ τ :=
  fun v h1 h2 => h v h1 (Nat.le_trans h2 hnm)

theorem AgreeBelow.refl (n : Nat) (σ : Assign) : AgreeBelow n σ σ := fun _ _ _ => rfl

theorem AgreeBelow.symm {n : Nat} {σ τ : Assign} (h : AgreeBelow n σ τ) : AgreeBelow n τ σ :=
  fun v h1 h2 => (h v h1 h2).symm

theorem AgreeBelow.trans {n : Nat} {σ τ ρ : Assign} (h : AgreeBelow n σ τ) (h' : AgreeBelow n τ ρ) :
    AgreeBelow n σ ρ := fun v h1 h2 => (h v h1 h2).trans (h' v h1 h2)

theorem AgreeBelow.mono {n m : Nat} {σ τ : Assign} (h : AgreeBelow n σ τ) (hm : m ≤ n) :
    AgreeBelow m σ τ := fun v h1 h2 => h v h1 (Nat.lt_of_lt_of_le h2 hm)

theorem AgreeBelow.litVal_congr {n : Nat} {σ τ : Assign} (h : AgreeBelow n σ τ) {l : Int} (h0 : l ≠ 0)
    (hl : l.natAbs < n) : litVal σ l = litVal τ l :=
  litVal_congr_on (h _ (Int.natAbs_pos.2 h0) hl)

theorem agreeBelow_succ {n : Nat} {σ τ : Assign} : AgreeBelow (n + 1) σ τ ↔ Agree n σ τ :=
  forall_congr' fun _ => forall_congr' fun _ => by rw [Nat.lt_succ_iff]

end SPModel
