/-
  `BijOn f D E`: `f` maps `D` one-to-one onto `E`.  Every unranking statement (an index below a count ↦ an
  arrangement of a kind) has this form; for a function into `Except` the values are the delivered ones, `Ok E`.
-/

structure BijOn {α β : Type} (f : α → β) (D : α → Prop) (E : β → Prop) : Prop where
  maps : ∀ a, D a → E (f a)
  inj : ∀ a₁ a₂, D a₁ → D a₂ → f a₁ = f a₂ → a₁ = a₂
  surj : ∀ b, E b → ∃ a, D a ∧ f a = b

def Ok {ε β : Type} (E : β → Prop) (r : Except ε β) : Prop := ∃ b, r = .ok b ∧ E b

namespace BijOn
variable {α β γ : Type} {f : α → β} {D D' : α → Prop} {E E' : β → Prop}

theorem of_iff (h : BijOn f D E) (hD : ∀ a, D' a ↔ D a) (hE : ∀ b, E' b ↔ E b) : BijOn f D' E' :=
  ⟨fun a ha => (hE _).2 (h.maps a ((hD a).1 ha)),
   fun a₁ a₂ h₁ h₂ => h.inj a₁ a₂ ((hD _).1 h₁) ((hD _).1 h₂),
   fun b hb => (h.surj b ((hE b).1 hb)).imp fun a ha => ⟨(hD a).2 ha.1, ha.2⟩⟩

theorem congr (h : BijOn f D E) (hE : ∀ b, E' b ↔ E b) : BijOn f D E' :=
  h.of_iff (fun _ => Iff.rfl) hE

/-- `congr` below a wrapper `G` (say `Except.ok`) -/
theorem congr_wrap {δ : Type} {G : δ → β} {P P' : δ → Prop} (h : BijOn f D (fun b => ∃ d, b = G d ∧ P d))
    (hP : ∀ d, P' d ↔ P d) : BijOn f D (fun b => ∃ d, b = G d ∧ P' d) :=
  h.congr fun _ => exists_congr fun d => and_congr_right fun _ => hP d

theorem of_eq {g : α → β} (h : BijOn g D E) (hfg : ∀ a, D a → f a = g a) : BijOn f D E :=
  ⟨fun a ha => hfg a ha ▸ h.maps a ha,
   fun a₁ a₂ h₁ h₂ e => h.inj a₁ a₂ h₁ h₂ (by rw [← hfg a₁ h₁, ← hfg a₂ h₂, e]),
   fun b hb => (h.surj b hb).imp fun a ha => ⟨ha.1, (hfg a ha.1).trans ha.2⟩⟩

theorem map (h : BijOn f D E) (φ : β → γ) (hφ : ∀ b b', E b → E b' → φ b = φ b' → b = b') :
    BijOn (fun a => φ (f a)) D (fun c => ∃ b, E b ∧ φ b = c) :=
  ⟨fun a ha => ⟨f a, h.maps a ha, rfl⟩,
   fun a₁ a₂ h₁ h₂ e => h.inj a₁ a₂ h₁ h₂ (hφ _ _ (h.maps a₁ h₁) (h.maps a₂ h₂) e),
   fun _ hc => hc.elim fun b hb => (h.surj b hb.1).imp fun a ha => ⟨ha.1, by rw [ha.2, hb.2]⟩⟩

/-- values that come in a wrapper `G`, put into another, `G'`, by `φ` -/
theorem wrap {δ : Type} {G : δ → β} {G' : δ → γ} {P : δ → Prop}
    (h : BijOn f D (fun b => ∃ d, b = G d ∧ P d)) (φ : β → γ) (hφ : ∀ d, φ (G d) = G' d)
    (hG' : ∀ d d', G' d = G' d' → d = d') :
    BijOn (fun a => φ (f a)) D (fun c => ∃ d, c = G' d ∧ P d) := by
  refine (h.map φ ?_).congr fun c =>
    ⟨fun hc => hc.elim fun d hd => ⟨G d, ⟨d, rfl, hd.2⟩, (hφ d).trans hd.1.symm⟩,
     fun hc => hc.elim fun _ hb => hb.1.elim fun d hd => ⟨d, by rw [← hb.2, hd.1, hφ], hd.2⟩⟩
  rintro _ _ ⟨d, rfl, -⟩ ⟨d', rfl, -⟩ e
  rw [hφ, hφ] at e
  rw [hG' d d' e]

protected theorem id : BijOn (fun a => a) D D :=
  ⟨fun _ h => h, fun _ _ _ _ h => h, fun a h => ⟨a, h, rfl⟩⟩

theorem of_ok {ε : Type} {f : α → Except ε β} {E : β → Prop} (maps : ∀ a, D a → ∃ b, f a = .ok b ∧ E b)
    (inj : ∀ a₁ a₂, D a₁ → D a₂ → f a₁ = f a₂ → a₁ = a₂) (surj : ∀ b, E b → ∃ a, D a ∧ f a = .ok b) :
    BijOn f D (Ok E) :=
  ⟨maps, inj, fun _ h => h.elim fun b hb => hb.1 ▸ surj b hb.2⟩

theorem surj_ok {ε : Type} {f : α → Except ε β} {E : β → Prop} (h : BijOn f D (Ok E)) {b : β} (hb : E b) :
    ∃ a, D a ∧ f a = .ok b :=
  h.surj _ ⟨b, rfl, hb⟩

theorem enum_perm {f₁ f₂ : Nat → β} {N₁ N₂ : Nat} (h₁ : BijOn f₁ (· < N₁) E)
    (h₂ : BijOn f₂ (· < N₂) E) : ((List.range N₁).map f₁).Perm ((List.range N₂).map f₂) := by
  have nd : ∀ {f : Nat → β} {N}, BijOn f (· < N) E → ((List.range N).map f).Nodup := fun h =>
    List.pairwise_map.mpr (List.nodup_range.imp_of_mem fun hx hy hne e =>
      hne (h.inj _ _ (List.mem_range.mp hx) (List.mem_range.mp hy) e))
  have sub : ∀ {f g : Nat → β} {N M}, BijOn f (· < N) E → BijOn g (· < M) E →
      ∀ b, b ∈ (List.range N).map f → b ∈ (List.range M).map g := by
    intro f g N M hf hg b hb
    obtain ⟨i, hi, rfl⟩ := List.mem_map.mp hb
    obtain ⟨j, hj, e⟩ := hg.surj _ (hf.maps i (List.mem_range.mp hi))
    exact List.mem_map.mpr ⟨j, List.mem_range.mpr hj, e⟩
  exact (List.perm_ext_iff_of_nodup (nd h₁) (nd h₂)).mpr fun b => ⟨sub h₁ h₂ b, sub h₂ h₁ b⟩

end BijOn
