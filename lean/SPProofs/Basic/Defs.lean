/-
  Definitional extension: `Defines lo hi D`, the condition `D` defines the variables `lo ≤ v < hi` from those below
  `lo`.  One definition of a fresh variable is an instance (`Defines.var`: a gate of the CNF builder, a cache miss of
  the Tseitin conversion), and instances compose (`Defines.seq`).
-/
import SPProofs.Basic.Lits

namespace SPModel

/-- `D` reads variables below `hi` only, every assignment can be changed on `lo ≤ v < hi` so that
    `D` holds, and in only one way. -/
structure Defines (lo hi : Nat) (D : Assign → Prop) : Prop where
  le : lo ≤ hi
  reads : ∀ {σ τ : Assign}, AgreeBelow hi σ τ → D σ → D τ
  ex : ∀ σ : Assign, ∃ τ, (∀ v, ¬ (lo ≤ v ∧ v < hi) → τ v = σ v) ∧ D τ
  uniq : ∀ {τ₁ τ₂ : Assign}, D τ₁ → D τ₂ → AgreeBelow lo τ₁ τ₂ → AgreeBelow hi τ₁ τ₂

namespace Defines
variable {lo mid hi : Nat} {D D' : Assign → Prop}

theorem nil {n : Nat} (hD : ∀ τ, D τ) : Defines n n D :=
  ⟨Nat.le_refl n, fun _ _ => hD _, fun σ => ⟨σ, fun _ _ => rfl, hD σ⟩, fun _ _ h => h⟩

theorem congr (h : Defines lo hi D) (hD : ∀ τ, D' τ ↔ D τ) : Defines lo hi D' :=
  (funext fun τ => propext (hD τ) : D' = D) ▸ h

theorem ex_agree (h : Defines lo hi D) (σ : Assign) : ∃ τ, AgreeBelow lo σ τ ∧ D τ :=
  (h.ex σ).imp fun _ hτ => ⟨fun v _ hv => (hτ.1 v fun h => Nat.not_le.2 hv h.1).symm, hτ.2⟩

theorem seq (h : Defines lo mid D) (h' : Defines mid hi D') : Defines lo hi fun τ => D τ ∧ D' τ where
  le := Nat.le_trans h.le h'.le
  reads ha := And.imp (h.reads fun v h1 h2 => ha v h1 (Nat.lt_of_lt_of_le h2 h'.le)) (h'.reads ha)
  ex σ := by
    obtain ⟨τ, hf, hτ⟩ := h.ex σ
    obtain ⟨τ', hf', hτ'⟩ := h'.ex τ
    refine ⟨τ', fun v hv => ?_,
      h.reads (fun v _ h2 => (hf' v fun hv => Nat.not_le.2 h2 hv.1).symm) hτ, hτ'⟩
    rw [hf' v fun hv' => hv ⟨Nat.le_trans h.le hv'.1, hv'.2⟩,
      hf v fun hv' => hv ⟨hv'.1, Nat.lt_of_lt_of_le hv'.2 h'.le⟩]
  uniq h₁ h₂ ha := h'.uniq h₁.2 h₂.2 (h.uniq h₁.1 h₂.1 ha)

theorem var {n : Nat} {val : Assign → Bool} (hn : 0 < n)
    (hval : ∀ {σ τ : Assign}, AgreeBelow n σ τ → val σ = val τ) :
    Defines n (n + 1) fun τ => τ n = val τ where
  le := Nat.le_succ n
  reads ha h := by
    rw [← ha n hn (Nat.lt_succ_self n), h]
    exact hval fun v h1 h2 => ha v h1 (Nat.lt_succ_of_lt h2)
  ex σ := by
    refine ⟨fun v => if v = n then val σ else σ v,
      fun v hv => if_neg fun e : v = n => hv (e ▸ ⟨Nat.le_refl _, Nat.lt_succ_self _⟩), ?_⟩
    exact (if_pos rfl).trans (hval fun v _ h2 => (if_neg (Nat.ne_of_lt h2)).symm)
  uniq h₁ h₂ ha v h1 h2 := by
    rcases Nat.lt_succ_iff_lt_or_eq.1 h2 with h2 | rfl
    · exact ha v h1 h2
    · rw [h₁, h₂, hval ha]

end Defines
end SPModel
