/-
  The iterate-and-block loop (`SPModel.Sampler`), for C09 and C27: what a blocking clause excludes, `project`
  literal by literal (`projLit`), the two equations of `iterate`.
-/
import SPModel.Sampler
import SPProofs.Basic.Lits

namespace SPModel.Sampler

theorem clauseSat_blocking (τ : Assign) (sol : List Int) (hs : ∀ l ∈ sol, l ≠ 0) :
    clauseSat τ (blocking sol) = true ↔ ¬ ∀ l ∈ sol, litVal τ l = true := by
  simp only [clauseSat, blocking, List.any_map, List.any_eq_true, Function.comp, Classical.not_forall,
    exists_prop]
  refine exists_congr fun x => and_congr_right fun hx => ?_
  rw [litVal_neg τ x (hs x hx)]
  simp

def projLit (τ : Assign) (i : Nat) : Int :=
  if τ (i + 1) then ((i + 1 : Nat) : Int) else -((i + 1 : Nat) : Int)

theorem project_eq_map (s : Nat) (τ : Assign) : project s τ = (List.range s).map (projLit τ) := rfl

theorem projLit_ne_zero (τ : Assign) (i : Nat) : projLit τ i ≠ 0 := by
  unfold projLit; split <;> omega

theorem litVal_projLit (σ τ : Assign) (i : Nat) : litVal σ (projLit τ i) = true ↔ σ (i + 1) = τ (i + 1) := by
  unfold projLit
  cases τ (i + 1)
  · rw [if_neg Bool.false_ne_true, litVal_neg_natCast _ (Nat.succ_pos i), Bool.not_eq_true']
  · rw [if_pos rfl, litVal_natCast _ _ (Nat.succ_pos i)]

theorem projLit_eq_iff (σ τ : Assign) (i : Nat) : projLit σ i = projLit τ i ↔ σ (i + 1) = τ (i + 1) :=
  ⟨fun h => (litVal_projLit σ τ i).1 (h ▸ (litVal_projLit σ σ i).2 rfl), fun h => by rw [projLit, projLit, h]⟩

theorem project_eq_iff (s : Nat) (σ τ : Assign) :
    project s σ = project s τ ↔ ∀ i, i < s → σ (i + 1) = τ (i + 1) := by
  rw [project_eq_map, project_eq_map, List.map_inj_left]
  simp [projLit_eq_iff]

theorem iterate_succ_none {solve : Solver} {φ : Cnf} (h : solve φ = none) (s n : Nat) :
    iterate solve s (n + 1) φ = [] := by
  rw [iterate, h]

theorem iterate_succ_some {solve : Solver} {φ : Cnf} {τ : Assign} (h : solve φ = some τ) (s n : Nat) :
    iterate solve s (n + 1) φ = project s τ :: iterate solve s n (φ ++ [blocking (project s τ)]) := by
  rw [iterate, h]

end SPModel.Sampler
