/-
  C24, laws (3)-(5) of the documented combinator equivalences in the reference semantics: (3) CrossBlock =
  MultiCrossBlock of one crossing, up to the error message; (4) Repeat(b, []) = b under `equalPreambles` and
  `alignInert`; (5) Merge([b]) = b in REPEAT mode (the library default) or under `weightsStable`.  `Witness`: each
  hypothesis is needed, and the stronger readings are false.
-/
import SPModel.Spec
import SPProofs.Basic.List
import SPProofs.SpecLemmas.Geo
import SPProofs.SpecLemmas.Create
import SPProofs.Properties.C24

namespace SPModel.C24
open SPModel SPModel.Spec SPModel.SpecLemmas

/-- Repeat is a Merge with EQUAL_PREAMBLE: a block whose crossings have different preambles (legal under
    PARALLEL_START / POST_PREAMBLE) becomes an error. -/
def equalPreambles (d : Design) (g : Geo) : Bool := allPreEq d g.crossings

/-- Every weight is what WEIGHT/EQUAL mode would compute, `⌈(n - start) / size⌉`: so for CrossBlock and WEIGHT-mode
    MultiCrossBlock, not for a REPEAT-mode block, whose weights a WEIGHT/EQUAL-mode Merge computes again. -/
def weightsStable (g : Geo) : Bool :=
  (g.crossings.zip (g.preambles.zip g.sizes)).all (fun p => p.1.weight == ceilDiv (g.n - p.2.1) p.2.2)

/-- Repeat resets the alignment to EQUAL_PREAMBLE, and POST_PREAMBLE shifts the windows of an older constraint by
    (preamble of the block − preamble of the constraint).  Beside `equalPreambles` this only excludes POST_PREAMBLE
    blocks that merge a constraint of a sub-block without crossing (preamble 0) with crossings of positive preamble. -/
def alignInert (g : Geo) : Bool :=
  g.align != .postPreamble ||
  g.constraints.all (fun sc => match sc.scope with
    | none => true
    | some (len, pre) => decide (len - pre = 0) || decide (g.preambles.headD 0 ≤ pre))

theorem createM_design (d : Design) (design : List Nat) (insts : List CrossInst) (old : List Scoped)
    (new : List ConstraintD) (rcc : Bool) (mode : Mode) (align : Alignment) :
    (createM d design insts old new rcc mode align).design = design := rfl

theorem createM_rcc (d : Design) (design : List Nat) (insts : List CrossInst) (old : List Scoped)
    (new : List ConstraintD) (rcc : Bool) (mode : Mode) (align : Alignment) :
    (createM d design insts old new rcc mode align).rcc = rcc := rfl

theorem createM_align (d : Design) (design : List Nat) (insts : List CrossInst) (old : List Scoped)
    (new : List ConstraintD) (rcc : Bool) (mode : Mode) (align : Alignment) :
    (createM d design insts old new rcc mode align).align = align := rfl

theorem validG_error (d : Design) (g : Geo) (e : Option String) (h : e.isNone = g.error.isNone) (s : Seq) :
    validG d { g with error := e } s = validG d g s := by
  unfold validG
  rw [← h]
  rfl

/-- the error of `CrossBlock(design, crossing, [], rcc)`, which MultiCrossBlock builds first -/
def bareError (d : Design) (design crossing : List Nat) (rcc : Bool) : Option String :=
  (geo d (.cross design crossing [] rcc)).error

/-- law (3) for geometries: all fields but `error` are equal; the MultiCrossBlock's error is that of the
    constraint-free crossing if it has one, else the CrossBlock's -/
theorem cross_multi_geo (d : Design) (design crossing : List Nat) (cs : List ConstraintD) (rcc : Bool) :
    geo d (.multiCross design [crossing] cs rcc .weight .equalPreamble) =
      { geo d (.cross design crossing cs rcc) with
        error := (bareError d design crossing rcc).orElse (fun _ => (geo d (.cross design crossing cs rcc)).error) } := by
  have hcr : (createM d design [{ factors := crossing, sustain := 1, weight := 1 }] [] [] rcc .weight
      .equalPreamble).crossings = reweight _ (keepInsts [{ factors := crossing, sustain := 1, weight := 1 }]) := rfl
  simp only [geo, bareError, List.map_cons, List.map_nil, List.flatMap_cons, List.flatMap_nil, List.append_nil,
    List.findSome?_cons, List.findSome?_nil, create_eq_createM]
  -- the MultiCrossBlock runs `create` on the crossings of the bare block, which differ from `[crossing]` in weight
  rw [hcr, createM_weight_reweight, createM_keepInsts]
  refine congrArg (Geo.mk _ _ _ _ _ _ _ _) ?_
  cases (createM d design [{ factors := crossing, sustain := 1, weight := 1 }] [] [] rcc .weight
      .equalPreamble).error <;> rfl

/-- one side is an error exactly when the other is (the messages may differ, see `cross_multi_error_differs`) -/
theorem cross_multi_error (d : Design) (design crossing : List Nat) (cs : List ConstraintD) (rcc : Bool) :
    (geo d (.multiCross design [crossing] cs rcc .weight .equalPreamble)).error.isNone =
      (geo d (.cross design crossing cs rcc)).error.isNone := by
  rw [cross_multi_geo]
  show ((bareError d design crossing rcc).orElse _).isNone = _
  cases hc : (geo d (.cross design crossing cs rcc)).error with
  | some x => cases bareError d design crossing rcc <;> rfl
  | none =>
    have h0 : bareError d design crossing rcc = none := by
      simp only [geo, create_eq_createM] at hc
      simp only [bareError, geo, create_eq_createM]
      exact createM_error_mono d design _ rcc .equalPreamble (List.nil_subset _) hc
    rw [h0]; rfl

/-- law (3): the same valid sequences, no hypothesis -/
theorem cross_eq_multiCross (d : Design) (design crossing : List Nat) (cs : List ConstraintD) (rcc : Bool) (s : Seq) :
    validG d (geo d (.cross design crossing cs rcc)) s =
      validG d (geo d (.multiCross design [crossing] cs rcc .weight .equalPreamble)) s := by
  have h := cross_multi_error d design crossing cs rcc
  rw [cross_multi_geo] at h ⊢
  exact (validG_error d _ _ h s).symm

/-- what a block that only wraps `b` (`Merge([b], [], m)`, `Repeat(b, [])`) computes from the geometry of `b` -/
def rewrap (d : Design) (g : Geo) (m : Mode) (a : Alignment) : Geo :=
  let r := create d g.design g.crossings g.constraints [] g.rcc m a
  { r with error := g.error.orElse (fun _ => r.error) }

theorem weightsStable_iff {d : Design} {g : Geo} (h : CreateN.GeoOK d g) :
    weightsStable g = true ↔ ∀ i ∈ g.crossings,
      i.weight = ceilDiv (g.n - startFn d g.align g.crossings i) (sizeOf d g.design (excludedLevels g.constraints) i) := by
  unfold weightsStable
  rw [h.preambles_eq, h.sizes, List.zip_map', ← List.map_prod_left_eq_zip, List.all_map, List.all_eq_true]
  simp only [Function.comp_def, beq_iff_eq]
  rfl

/-- `ha`: the new alignment treats the preambles as the old one did; `hw`: the weights are not computed afresh to
    something else -/
theorem rewrap_eq {d : Design} {g : Geo} (h : CreateN.GeoOK d g) (he : ErrOK d g) (m : Mode) (a : Alignment)
    (ha : a = g.align ∨ equalPreambles d g = true) (hw : m = .repeat ∨ weightsStable g = true) :
    rewrap d g m a = { g with align := a } := by
  have hwf : ∀ i ∈ g.crossings,
      weightFn d g.design (excludedLevels g.constraints) m a g.crossings g.n i = i.weight := by
    intro i hi
    rw [weightFn, startFn_align d _ g.align a ha i hi]
    rcases hw with rfl | hw
    · rfl
    · split
      · rfl
      · exact ((weightsStable_iff h).mp hw i hi).symm
  simp only [rewrap, create_eq_createM]
  rw [createM_own h m a ha, reweight_eq_self hwf]
  -- the error: where `g` has none, none of the three tests of the second `create` fires
  refine congrArg (Geo.mk _ _ _ _ _ _ _ _) (orElse_eq_self fun hg =>
    errOf_eq_none.mpr ⟨equalBadOf_eq_false m hwf, ?_, (he hg).2⟩)
  rcases ha with rfl | ha
  · exact (he hg).1
  · exact preBadOf_of_allPreEq a ha

theorem repeat_nil_unfold (d : Design) (b : BlockExpr) :
    geo d (.repeat b []) = rewrap d (geo d b) .repeat .equalPreamble := by
  simp only [geo, rewrap]

/-- law (4) for geometries: only `align` changes, `error` does not -/
theorem repeat_nil_geo (d : Design) (b : BlockExpr) (h : equalPreambles d (geo d b) = true) :
    geo d (.repeat b []) = { geo d b with align := .equalPreamble } := by
  rw [repeat_nil_unfold]
  exact rewrap_eq (CreateN.geo_geoOK d b) (CreateN.geo_errOK d b) .repeat .equalPreamble (Or.inr h) (Or.inl rfl)

/-- `Repeat(b, [])` is an error exactly when `b` is or the preambles of `b`'s crossings differ -/
theorem repeat_nil_error (d : Design) (b : BlockExpr) :
    (geo d (.repeat b [])).error.isNone = ((geo d b).error.isNone && equalPreambles d (geo d b)) := by
  rw [repeat_nil_unfold]
  simp only [rewrap, create_eq_createM, createM_own_error (CreateN.geo_geoOK d b), preBadOf_equalPreamble]
  cases hg : (geo d b).error with
  | some x => rfl
  | none =>
    -- `b` has no error, so only the preamble test of the second `create` can raise one
    rw [(CreateN.geo_errOK d b hg).2]
    show (errOf false (!allPreEq d (geo d b).crossings) none).isNone = (true && allPreEq d (geo d b).crossings)
    cases allPreEq d (geo d b).crossings <;> rfl

theorem validG_align (d : Design) (g : Geo) (a : Alignment)
    (h : ∀ sc ∈ g.constraints, windowsOf { g with align := a } sc = windowsOf g sc) (s : Seq) :
    validG d { g with align := a } s = validG d g s := by
  have hc : constraintsOk d { g with align := a } s = constraintsOk d g s := by
    unfold constraintsOk
    refine List.all_congr_mem fun sc hsc => ?_
    rw [h sc hsc]
    rfl
  unfold validG
  rw [hc]
  rfl

/-- under `alignInert` no window is shifted: the windows are those of a PARALLEL_START block -/
theorem windowsOf_alignInert (g : Geo) (h : alignInert g = true) :
    ∀ sc ∈ g.constraints, windowsOf g sc = windowsOf { g with align := .parallelStart } sc := by
  intro sc hsc
  obtain ⟨_, _, _, _, _, _, al, _, _⟩ := g
  cases al
  · -- POST_PREAMBLE: `h` is its second disjunct, so the step or the offset `preambles.headD 0 - pre` is 0
    have := List.all_eq_true.mp h sc hsc
    obtain ⟨c, _ | ⟨len, pre⟩, su⟩ := sc
    · rfl
    · simp only [Bool.or_eq_true, decide_eq_true_eq] at this
      dsimp only [windowsOf]
      rcases this with h | h
      · rw [if_pos h, if_pos h]
      · rw [Nat.sub_eq_zero_of_le h]
  · rfl
  · rfl

/-- law (4): the same valid sequences -/
theorem repeat_nil_eq (d : Design) (b : BlockExpr) (hpre : equalPreambles d (geo d b) = true)
    (hal : alignInert (geo d b) = true) (s : Seq) :
    validG d (geo d (.repeat b [])) s = validG d (geo d b) s := by
  rw [repeat_nil_geo d b hpre]
  -- both geometries are `alignInert`, the new one because its alignment is EQUAL_PREAMBLE
  exact validG_align d (geo d b) .equalPreamble (fun sc hsc =>
    (windowsOf_alignInert { geo d b with align := .equalPreamble } rfl sc hsc).trans
      (windowsOf_alignInert _ hal sc hsc).symm) s

/-- law (4) with "the alignment of `b` is not POST_PREAMBLE" for `alignInert` -/
theorem repeat_nil_eq_of_align (d : Design) (b : BlockExpr) (hpre : equalPreambles d (geo d b) = true)
    (hal : (geo d b).align ≠ .postPreamble) (s : Seq) :
    validG d (geo d (.repeat b [])) s = validG d (geo d b) s := by
  apply repeat_nil_eq d b hpre
  unfold alignInert
  cases h : (geo d b).align with
  | postPreamble => exact absurd h hal
  | parallelStart => rfl
  | equalPreamble => rfl

/-- law (4) for a CrossBlock: no hypothesis -/
theorem repeat_nil_cross (d : Design) (design crossing : List Nat) (cs : List ConstraintD) (rcc : Bool) (s : Seq) :
    validG d (geo d (.repeat (.cross design crossing cs rcc) [])) s =
      validG d (geo d (.cross design crossing cs rcc)) s := by
  apply repeat_nil_eq_of_align
  · -- at most one crossing is kept
    simp only [geo, create_eq_createM]
    refine allPreEq_of_length_le_one d ?_
    simp only [createM, reweight, List.length_map]
    exact List.length_filter_le _ _
  · simp only [geo, create_eq_createM, createM_align]
    decide

theorem merge_singleton_unfold (d : Design) (b : BlockExpr) (m : Mode) :
    geo d (.merge [b] [] m none) = rewrap d (geo d b) m (geo d b).align := by
  -- over the one-element list everything Merge collects is that of `geo d b`: the design, the default alignment
  -- (so no block's alignment differs), crossings, constraints, `rcc`, the first error
  simp only [geo, geoList, List.foldl_cons, List.foldl_nil, nil_unionIds, List.flatMap_cons, List.flatMap_nil,
    List.append_nil, List.head?_cons, Option.map_some, Option.getD_some, List.all_cons, List.all_nil, Bool.and_true,
    List.any_cons, List.any_nil, List.findSome?_cons, List.findSome?_nil, rewrap,
    ne_eq, not_true_eq_false, decide_false, Bool.or_false, Bool.false_eq_true, if_false]
  refine congrArg (Geo.mk _ _ _ _ _ _ _ _) ?_
  cases (geo d b).error <;> rfl

theorem merge_singleton_geo (d : Design) (b : BlockExpr) (m : Mode)
    (h : m = .repeat ∨ weightsStable (geo d b) = true) :
    geo d (.merge [b] [] m none) = geo d b := by
  rw [merge_singleton_unfold]
  exact rewrap_eq (CreateN.geo_geoOK d b) (CreateN.geo_errOK d b) m _ (Or.inl rfl) h

/-- law (5): `h` is REPEAT mode (the library default) or `weightsStable` -/
theorem merge_singleton_eq (d : Design) (b : BlockExpr) (m : Mode)
    (h : m = .repeat ∨ weightsStable (geo d b) = true) (s : Seq) :
    validG d (geo d (.merge [b] [] m none)) s = validG d (geo d b) s := by
  rw [merge_singleton_geo d b m h]

theorem weightsStable_createM_weight (d : Design) (design : List Nat) (insts : List CrossInst) (old : List Scoped)
    (new : List ConstraintD) (rcc : Bool) (align : Alignment) (e : Option String) :
    weightsStable { createM d design insts old new rcc .weight align with error := e } = true := by
  unfold weightsStable
  simp only [createM, reweight, List.zip_map', List.all_map, List.all_eq_true, Function.comp_def, beq_iff_eq]
  intro i _
  rfl

/-- law (5) for a CrossBlock, every mode: no hypothesis -/
theorem merge_singleton_cross (d : Design) (design crossing : List Nat) (cs : List ConstraintD) (rcc : Bool)
    (m : Mode) :
    geo d (.merge [.cross design crossing cs rcc] [] m none) = geo d (.cross design crossing cs rcc) := by
  apply merge_singleton_geo
  right
  simp only [geo, create_eq_createM]
  exact weightsStable_createM_weight d design _ [] cs rcc .equalPreamble _

/-- law (5) for a WEIGHT-mode MultiCrossBlock, every mode: no hypothesis -/
theorem merge_singleton_multiCross (d : Design) (design : List Nat) (crossings : List (List Nat))
    (cs : List ConstraintD) (rcc : Bool) (align : Alignment) (m : Mode) :
    geo d (.merge [.multiCross design crossings cs rcc .weight align] [] m none) =
      geo d (.multiCross design crossings cs rcc .weight align) := by
  apply merge_singleton_geo
  right
  simp only [geo, create_eq_createM]
  exact weightsStable_createM_weight d design _ [] cs rcc align _

namespace Witness

def color : FactorD := { id := 0, name := "color", levels := [⟨"r", 1, #[]⟩, ⟨"b", 1, #[]⟩], window := none }
def trW : WindowD := { deps := [0], width := 2, stride := 1, start := none, kind := "transition" }
/-- same / different colour as the previous trial -/
def trF : FactorD := { id := 1, name := "tr", levels := [⟨"same", 1, #[false,false,false,false,true,false,false,false,true]⟩, ⟨"diff", 1, #[false,false,false,false,false,true,false,true,false]⟩], window := some trW }
def wtW : WindowD := { deps := [0], width := 1, stride := 1, start := none, kind := "within" }
/-- a within-trial copy of the colour -/
def wtF : FactorD := { id := 2, name := "wt", levels := [⟨"isr", 1, #[false,true,false]⟩, ⟨"isb", 1, #[false,false,true]⟩], window := some wtW }
def dd : Design := { factors := [color, trF, wtF], block := .cross [0] [0] [] false }

def c3 : List ConstraintD := [.exclude 0 0, .exclude 0 1]

/-- by `rfl` the messages are compared as literals; `decide` would compare them byte by byte -/
theorem c3_errors : (geo dd (.cross [0, 2] [0, 2] c3 true)).error = some "a crossing has no feasible combination" ∧
    (geo dd (.multiCross [0, 2] [[0, 2]] c3 true .weight .equalPreamble)).error =
      some "complete crossing unsatisfiable" := ⟨rfl, rfl⟩

example : (geo dd (.cross [0, 2] [0, 2] c3 true)).error = some "a crossing has no feasible combination" ∧
    (geo dd (.multiCross [0, 2] [[0, 2]] c3 true .weight .equalPreamble)).error =
      some "complete crossing unsatisfiable" := c3_errors

/-- law (3) does not hold as an equality of geometries: the two error messages can differ -/
theorem cross_multi_error_differs :
    ¬ ∀ (d : Design) (design crossing : List Nat) (cs : List ConstraintD) (rcc : Bool),
      geo d (.multiCross design [crossing] cs rcc .weight .equalPreamble) = geo d (.cross design crossing cs rcc) := by
  intro h
  have h1 := c3_errors.2
  rw [h dd [0, 2] [0, 2] c3 true, c3_errors.1] at h1
  exact absurd (Option.some.inj h1) (by decide +kernel)

/-- two crossings with preambles 0 and 1, started in parallel: a valid block that EQUAL_PREAMBLE rejects -/
def bP : BlockExpr := .multiCross [0, 1] [[0], [1]] [] false .weight .parallelStart
def sP : Seq := [(0, [some 0, some 0, some 1]), (1, [none, some 0, some 1])]

/-- without `equalPreambles` law (4) fails (`alignInert` holds): `Repeat(b, [])` is an error, `b` is not -/
example : equalPreambles dd (geo dd bP) = false ∧ alignInert (geo dd bP) = true ∧
    validG dd (geo dd bP) sP = true ∧ validG dd (geo dd (.repeat bP [])) sP = false := by decide +kernel

/-- a POST_PREAMBLE merge of a block without crossing (its constraint is scoped with preamble 0) and a block with
    preamble 1: the windows of the constraint start at trial 1 — and at trial 0 once wrapped in Repeat -/
def bA : BlockExpr := .multiCross [0] [] [.atMost 1 0 none, .minTrials 2] false .weight .postPreamble
def bB : BlockExpr := .multiCross [0, 1] [[1]] [] false .weight .postPreamble
def bM : BlockExpr := .merge [bA, bB] [] .repeat (some .postPreamble)
def sM : Seq := [(0, [some 0, some 0, some 1]), (1, [none, some 0, some 1])]

/-- without `alignInert` law (4) fails (`equalPreambles` holds, neither side is an error) -/
example : equalPreambles dd (geo dd bM) = true ∧ alignInert (geo dd bM) = false ∧
    (geo dd (.repeat bM [])).error = none ∧
    validG dd (geo dd bM) sM = true ∧ validG dd (geo dd (.repeat bM [])) sM = false := by decide +kernel

/-- both hypotheses of law (4) hold on a merge of two crossings with a derived (transition) factor and a constraint -/
def bS : BlockExpr :=
  .merge [.cross [0, 1] [1] [.atMost 1 0 none] false, .cross [0, 1] [0, 1] [] false] [] .weight none

example : equalPreambles dd (geo dd bS) = true ∧ alignInert (geo dd bS) = true ∧ (geo dd bS).error = none ∧
    (geo dd bS).crossings.length = 2 := by decide +kernel

/-- REPEAT-mode merge of a 4-trial and a 2-trial crossing of the same factor: weights 2 and 1 -/
def bR : BlockExpr := .merge [.cross [0] [0] [.minTrials 4] false, .cross [0] [0] [] false] [] .repeat none
def sR1 : Seq := [(0, [some 0, some 0, some 1, some 1])]
def sR2 : Seq := [(0, [some 0, some 1, some 0, some 1])]

/-- one evaluation of `geo dd bR` for both modes -/
theorem bR_facts : (weightsStable (geo dd bR) = false ∧
    validG dd (geo dd bR) sR1 = false ∧ validG dd (geo dd (.merge [bR] [] .weight none)) sR1 = true) ∧
    (validG dd (geo dd bR) sR2 = true ∧ (geo dd (.merge [bR] [] .equal none)).error ≠ none ∧
    validG dd (geo dd (.merge [bR] [] .equal none)) sR2 = false) := by
  decide +kernel

/-- law (5) is false for WEIGHT mode: the weights are computed again (both become 2), more sequences are valid -/
example : weightsStable (geo dd bR) = false ∧
    validG dd (geo dd bR) sR1 = false ∧ validG dd (geo dd (.merge [bR] [] .weight none)) sR1 = true := bR_facts.1

/-- law (5) is false for EQUAL mode: the recomputed weights differ from the given ones, which is an error -/
example : validG dd (geo dd bR) sR2 = true ∧ (geo dd (.merge [bR] [] .equal none)).error ≠ none ∧
    validG dd (geo dd (.merge [bR] [] .equal none)) sR2 = false := bR_facts.2

theorem merge_singleton_false_weight :
    ¬ ∀ (d : Design) (b : BlockExpr) (s : Seq),
      validG d (geo d (.merge [b] [] .weight none)) s = validG d (geo d b) s := by
  intro h
  have h1 := bR_facts.1.2.2
  rw [h dd bR sR1, bR_facts.1.2.1] at h1
  cases h1

theorem merge_singleton_false_equal :
    ¬ ∀ (d : Design) (b : BlockExpr) (s : Seq),
      validG d (geo d (.merge [b] [] .equal none)) s = validG d (geo d b) s := by
  intro h
  have h1 := bR_facts.2.2.2
  rw [h dd bR sR2, bR_facts.2.1] at h1
  cases h1

/-- `weightsStable` holds on a two-crossing WEIGHT-mode block (weights 3 and 2) -/
def bW : BlockExpr := .multiCross [0, 1] [[0], [1]] [.minTrials 5] false .weight .parallelStart

example : weightsStable (geo dd bW) = true ∧ (geo dd bW).error = none ∧
    (geo dd bW).crossings.map (·.weight) = [3, 2] := by decide +kernel

end Witness

end SPModel.C24

#print axioms SPModel.C24.cross_eq_multiCross
#print axioms SPModel.C24.cross_multi_geo
#print axioms SPModel.C24.cross_multi_error
#print axioms SPModel.C24.repeat_nil_eq
#print axioms SPModel.C24.repeat_nil_geo
#print axioms SPModel.C24.repeat_nil_error
#print axioms SPModel.C24.repeat_nil_cross
#print axioms SPModel.C24.merge_singleton_eq
#print axioms SPModel.C24.merge_singleton_geo
#print axioms SPModel.C24.merge_singleton_cross
#print axioms SPModel.C24.merge_singleton_multiCross
#print axioms SPModel.C24.Witness.cross_multi_error_differs
#print axioms SPModel.C24.Witness.merge_singleton_false_weight
#print axioms SPModel.C24.Witness.merge_singleton_false_equal
