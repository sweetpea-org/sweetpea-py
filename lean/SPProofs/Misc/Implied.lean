/-
  `Block.add_implied_levels` (model: `Implied.column`, correspondence I10): where on every applicable trial exactly
  one level accepts the window, the column has that level there and '' elsewhere (`column_spec`).  With sustain 1
  (every implied factor of a real block: `Block.sustain_count` is 1 outside the crossings) this is what
  `Spec.derivedOk` asks.  With a larger sustain the window here steps back by single trials from the group's first
  trial, `Spec.matchingG` and `Fill.windowKeyS_group` by own trials: from width 3 on they differ.
-/
import SPModel.Implied

namespace SPModel.Implied
open SPModel

theorem flatMap_singleton_eq_map {α β : Type} (l : List α) (g : α → List β) (h : α → β)
    (hg : ∀ a ∈ l, g a = [h a]) : l.flatMap g = l.map h := by
  induction l with
  | nil => rfl
  | cons a t ih =>
    rw [List.flatMap_cons, List.map_cons, hg a (List.mem_cons_self ..),
      ih (fun b hb => hg b (List.mem_cons_of_mem _ hb))]
    rfl

def entry (d : Design) (id : Nat) (lf : Layout.LFactor) (w : WindowD) (look : Nat → Nat → Option Nat) (i : Nat) :
    Option Nat :=
  if Layout.applies lf (i / lf.sustain + 1) then
    (Spec.matching d (d.factor id) w look ((i / lf.sustain) * lf.sustain)).head?
  else none

theorem column_spec (d : Design) (id n : Nat) (lf : Layout.LFactor) (look : Nat → Nat → Option Nat) (w : WindowD)
    (hw : (d.factor id).window = some w)
    (hone : ∀ i, i < n → Layout.applies lf (i / lf.sustain + 1) = true →
      ∃ l, Spec.matching d (d.factor id) w look ((i / lf.sustain) * lf.sustain) = [l]) :
    column d id n lf look = (List.range n).map (entry d id lf w look) := by
  unfold column
  simp only [hw]
  apply flatMap_singleton_eq_map
  intro i hi
  have hi' : i < n := List.mem_range.1 hi
  unfold entry
  by_cases ha : Layout.applies lf (i / lf.sustain + 1) = true
  · obtain ⟨l, hl⟩ := hone i hi' ha
    simp [ha, hl]
  · simp [ha]

theorem column_length (d : Design) (id n : Nat) (lf : Layout.LFactor) (look : Nat → Nat → Option Nat) (w : WindowD)
    (hw : (d.factor id).window = some w)
    (hone : ∀ i, i < n → Layout.applies lf (i / lf.sustain + 1) = true →
      ∃ l, Spec.matching d (d.factor id) w look ((i / lf.sustain) * lf.sustain) = [l]) :
    (column d id n lf look).length = n := by
  rw [column_spec d id n lf look w hw hone]; simp

end SPModel.Implied
