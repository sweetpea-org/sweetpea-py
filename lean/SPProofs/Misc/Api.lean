/-
  For C20 / C21: equational forms of `getCols`, `zipCols`, `mkDict`, `rowMatches`, the counting loop of
  `frequency`, and the length of the tuples of `product`.
-/
import SPModel.Api
import SPProofs.Basic.List

namespace SPModel.Api

def colOf (e : Exp) (k : String) : List String :=
  match e.get k with
  | .ok c => c
  | .error _ => []

theorem colOf_of_get {e : Exp} {k : String} {c : List String} (h : e.get k = .ok c) : colOf e k = c := by
  unfold colOf; rw [h]

theorem getCols_ok (e : Exp) (keys : List String) (h : ∀ k ∈ keys, ∃ col, e.get k = .ok col) :
    getCols e keys = .ok (keys.map (colOf e)) := by
  induction keys with
  | nil => rfl
  | cons k ks ih =>
    obtain ⟨c, hc⟩ := h k (List.mem_cons_self ..)
    unfold getCols
    rw [ih (fun x hx => h x (List.mem_cons_of_mem _ hx)), hc, List.map_cons, colOf_of_get hc]

theorem zipCols_rect (cols : List (List String)) (n : Nat) (hne : cols ≠ [])
    (h : ∀ c ∈ cols, c.length = n) :
    zipCols cols = (List.range n).map (fun t => cols.map (fun col => col.getD t "")) := by
  cases cols with
  | nil => contradiction
  | cons c cs =>
    unfold zipCols
    simp only
    rw [h c (List.mem_cons_self ..),
      List.foldl_eq_self fun x hx => by rw [h x (List.mem_cons_of_mem _ hx), Nat.min_self]]

theorem mkDict_foldl_fresh (kvs acc : List (String × String))
    (hk : (kvs.map Prod.fst).Nodup) (hfresh : ∀ kv ∈ kvs, ∀ p ∈ acc, p.1 ≠ kv.1) :
    kvs.foldl (fun acc kv =>
      if acc.any (·.1 == kv.1) then acc.map (fun p => if p.1 == kv.1 then (p.1, kv.2) else p) else acc ++ [kv]) acc
      = acc ++ kvs := by
  induction kvs generalizing acc with
  | nil => exact (List.append_nil _).symm
  | cons kv kvs ih =>
    rw [List.map_cons, List.nodup_cons] at hk
    have hno : acc.any (·.1 == kv.1) = false :=
      List.any_eq_false.2 fun p hp => by simpa using hfresh kv List.mem_cons_self p hp
    rw [List.foldl_cons, hno, if_neg Bool.false_ne_true, ih (acc ++ [kv]) hk.2, List.append_assoc,
      List.singleton_append]
    intro kv' hkv' p hp
    rcases List.mem_append.mp hp with hp | hp
    · exact hfresh kv' (List.mem_cons_of_mem _ hkv') p hp
    · cases List.mem_singleton.1 hp
      exact fun heq => hk.1 (heq ▸ List.mem_map_of_mem hkv')

/-- the same definition as `SPModel.C21.rowAt`, which the statements of C21 use -/
def rowOf (e : Exp) (names : List String) (t : Nat) : Option (List String) :=
  names.mapM (fun n => match e.get n with
    | .ok col => col[t]?
    | .error _ => none)

theorem rowMatches_eq (e : Exp) (t : Nat) (names combo row : List String)
    (hlen : combo.length = names.length) (hrow : rowOf e names t = some row) :
    rowMatches e t names combo = .ok (row == combo) := by
  induction names generalizing combo row with
  | nil =>
    obtain rfl : combo = [] := List.eq_nil_of_length_eq_zero hlen
    cases hrow
    rfl
  | cons n ns ih =>
    rw [rowOf, List.mapM_cons] at hrow
    obtain ⟨v, hv, hrow⟩ := Option.bind_eq_some_iff.1 hrow
    obtain ⟨row', hr, hrow⟩ := Option.bind_eq_some_iff.1 hrow
    cases hrow
    cases combo with
    | nil => cases hlen
    | cons c cs =>
      unfold rowMatches
      cases hg : e.get n with
      | error err => rw [hg] at hv; cases hv
      | ok col =>
        rw [hg] at hv
        simp only [hv, bne, List.cons_beq_cons, ih cs row' (Nat.succ.inj hlen) hr]
        cases v == c <;> rfl

theorem foldlM_count {α ε} (g : Nat → α → Except ε Nat) (p : α → Bool) (l : List α) (acc : Nat)
    (h : ∀ t ∈ l, ∀ acc, g acc t = .ok (if p t then acc + 1 else acc)) :
    l.foldlM g acc = .ok (acc + (l.filter p).length) := by
  induction l generalizing acc with
  | nil => rfl
  | cons t ts ih =>
    have hts := fun x hx => h x (List.mem_cons_of_mem t hx)
    rw [List.foldlM_cons, h t List.mem_cons_self, List.filter_cons]
    cases p t
    · exact ih acc hts
    · exact (ih (acc + 1) hts).trans (by rw [if_pos rfl, List.length_cons, Nat.add_right_comm, Nat.add_assoc])

theorem length_of_mem_product (ls : List (List String)) : ∀ c ∈ product ls, c.length = ls.length := by
  fun_induction product ls with
  | case1 => exact fun c hc => List.mem_singleton.1 hc ▸ rfl
  | case2 l ls ih =>
    intro c hc
    obtain ⟨x, _, hx⟩ := List.mem_flatMap.1 hc
    obtain ⟨t, ht, rfl⟩ := List.mem_map.1 hx
    rw [List.length_cons, ih t ht, List.length_cons]

end SPModel.Api
