/-
  RandomGen's derived fill-in (model: `Fill.fillColumn`, tied to `UCSolutionEnumerator._fill_in_derived` by
  correspondence I9f).  The arguments it reads for trial `i` of a factor held for `s` trials are the window of the
  factor's *own* trial `i / s` over the own-trial sequence (`windowKeyS_group`), so on an applicable trial where one
  level accepts (C15) the entry is the level `Spec.matching` selects there (`fillEntry_matching`), and `None` where
  the factor does not apply.
-/
import SPModel.Fill
import SPProofs.Properties.C15
import SPProofs.Basic.List

namespace SPModel.Fill
open SPModel

theorem windowKeyS_one (d : Design) (w : WindowD) (look : Nat → Nat → Option Nat) (i : Nat) :
    windowKeyS d w look i 1 = Spec.windowKey d w look i := by
  simp only [windowKeyS, Nat.mul_one]
  rfl

theorem sub_mul_of_le_div {i s b : Nat} (h : b ≤ i / s) : i - b * s = (i / s - b) * s + i % s := by
  rw [Nat.sub_mul, ← Nat.sub_add_comm (Nat.mul_le_mul_right s h), Nat.div_add_mod']

/-- a factor held for `s` trials: the arguments read at `i, i - s, i - 2s, …` are the window ending at the factor's own
    trial `i / s`, read from the own-trial sequence `g ↦ look dep (g * s + i % s)` -/
theorem windowKeyS_group (d : Design) (w : WindowD) (look : Nat → Nat → Option Nat) (i s : Nat) (hs : 0 < s) :
    windowKeyS d w look i s = Spec.windowKey d w (fun dep g => look dep (g * s + i % s)) (i / s) := by
  have key : ∀ dep b, (if b * s ≤ i then look dep (i - b * s) else none) =
      if b ≤ i / s then look dep ((i / s - b) * s + i % s) else none := fun dep b =>
    ite_congr (propext (Nat.le_div_iff_mul_le hs).symm) (fun hb => congrArg (look dep) (sub_mul_of_le_div hb))
      fun _ => rfl
  simp only [windowKeyS, key]
  rfl

theorem fillEntry_not_applicable (d : Design) (id : Nat) (lf : Layout.LFactor) (look : Nat → Nat → Option Nat) (i : Nat)
    (h : Layout.applies lf (i / lf.sustain + 1) = false) : fillEntry d id lf look i = .ok none := by
  fun_cases fillEntry d id lf look i with
  | case1 | case3 => rfl
  | case2 f w hw happ => exact absurd (h.symm.trans happ) Bool.false_ne_true

theorem selectLevel_eq_ok_iff {d : Design} {f : FactorD} {w : WindowD} {look : Nat → Nat → Option Nat} {i s l : Nat} :
    selectLevel d f w look i s = .ok l ↔
      (List.range f.levels.length).find? (fun l => tableAt f l (windowKeyS d w look i s)) = some l := by
  unfold selectLevel
  split <;> simp [*]

theorem selectLevel_eq_error_iff {d : Design} {f : FactorD} {w : WindowD} {look : Nat → Nat → Option Nat} {i s : Nat}
    {e : PyErr} : selectLevel d f w look i s = .error e ↔ e = .runtimeError ∧
      (List.range f.levels.length).find? (fun l => tableAt f l (windowKeyS d w look i s)) = none := by
  unfold selectLevel
  split <;> simp [*, eq_comm]

theorem selectLevel_ok (d : Design) (f : FactorD) (w : WindowD) (look : Nat → Nat → Option Nat) (i s l : Nat)
    (h : selectLevel d f w look i s = .ok l) :
    l < f.levels.length ∧ tableAt f l (windowKeyS d w look i s) = true ∧
      ∀ l', l' < l → tableAt f l' (windowKeyS d w look i s) = false := by
  obtain ⟨hp, hmem, hlt⟩ := List.find?_range_eq_some.mp (selectLevel_eq_ok_iff.mp h)
  exact ⟨List.mem_range.mp hmem, hp, fun l' hl' => by simpa using hlt l' hl'⟩

/-- no accepting level: RuntimeError, as in `select_level_for_sample` -/
theorem selectLevel_error (d : Design) (f : FactorD) (w : WindowD) (look : Nat → Nat → Option Nat) (i s : Nat)
    (h : ∀ l, l < f.levels.length → tableAt f l (windowKeyS d w look i s) = false) :
    selectLevel d f w look i s = .error .runtimeError := by
  exact selectLevel_eq_error_iff.mpr ⟨rfl, List.find?_eq_none.mpr fun l hl => by simp [h l (List.mem_range.1 hl)]⟩

theorem fillEntry_eq (d : Design) (id : Nat) (lf : Layout.LFactor) (look : Nat → Nat → Option Nat) (i : Nat)
    (w : WindowD) (hw : (d.factor id).window = some w) (hs : 0 < lf.sustain)
    (happ : Layout.applies lf (i / lf.sustain + 1) = true) :
    fillEntry d id lf look i =
      match (Spec.matching d (d.factor id) w (fun dep g => look dep (g * lf.sustain + i % lf.sustain))
          (i / lf.sustain)).head? with
      | some l => .ok (some l)
      | none => .error .runtimeError := by
  simp only [fillEntry, hw, happ, if_true, selectLevel, windowKeyS_group d w look i lf.sustain hs, Spec.matching,
    List.head?_filter, tableAt]
  -- both sides now match on the same `find?` over the levels
  generalize List.find? _ (List.range _) = o
  cases o <;> rfl

/-- When exactly one level's table accepts the window (what C15 demands of a derived factor), an applicable trial
    `i` of a factor held for `s` trials receives the level `Spec.matching` selects for the factor's own trial `i / s`
    over the own-trial sequence. -/
theorem fillEntry_matching (d : Design) (id : Nat) (lf : Layout.LFactor) (look : Nat → Nat → Option Nat) (i : Nat)
    (w : WindowD) (hw : (d.factor id).window = some w) (hs : 0 < lf.sustain)
    (huniq : C15.UniqueAt (d.factor id)
      (Spec.windowKey d w (fun dep g => look dep (g * lf.sustain + i % lf.sustain)) (i / lf.sustain)))
    (happ : Layout.applies lf (i / lf.sustain + 1) = true) :
    ∃ l, Spec.matching d (d.factor id) w (fun dep g => look dep (g * lf.sustain + i % lf.sustain)) (i / lf.sustain) = [l] ∧
      fillEntry d id lf look i = .ok (some l) := by
  obtain ⟨l, hm, -⟩ := C15.matching_unique_at d (d.factor id) w
    (fun dep g => look dep (g * lf.sustain + i % lf.sustain)) (i / lf.sustain) huniq
  exact ⟨l, hm, by rw [fillEntry_eq d id lf look i w hw hs happ, hm]; rfl⟩

/-- the only error of `fillEntry`, and so of the column, is the RuntimeError of a trial with no accepting level -/
theorem fillEntry_error (d : Design) (id : Nat) (lf : Layout.LFactor) (look : Nat → Nat → Option Nat) (i : Nat) (e : PyErr)
    (h : fillEntry d id lf look i = .error e) : e = .runtimeError := by
  revert h
  fun_cases fillEntry d id lf look i with
  | case1 | case3 => nofun
  | case2 f w hw happ =>
    cases hsel : selectLevel d f w look i lf.sustain with
    | ok l => nofun
    | error e' => exact fun h => Except.error.inj h ▸ (selectLevel_eq_error_iff.mp hsel).1

/-- When `_fill_in_derived` returns, it returns one entry per trial of `[start, stop)`, and the entry of trial
    `start + u` is `fillEntry`'s. -/
theorem fillColumn_ok (d : Design) (id : Nat) (lf : Layout.LFactor) (look : Nat → Nat → Option Nat) (start stop : Nat)
    (col : List (Option Nat)) (h : fillColumn d id lf look start stop = .ok col) :
    col.length = stop - start ∧
      ∀ u, u < stop - start → ∃ e, col[u]? = some e ∧ fillEntry d id lf look (start + u) = .ok e := by
  have h := List.mapM_eq_ok.mp h
  have hlen : col.length = stop - start := by
    rw [← List.length_map (f := Except.ok), ← h, List.length_map, List.length_range]
  refine ⟨hlen, fun u hu => ?_⟩
  have := congrArg (·[u]?) h
  rw [List.getElem?_map, List.getElem?_map, List.getElem?_range hu] at this
  exact (Option.map_eq_some_iff.1 this.symm).imp fun e he => ⟨he.1, he.2.symm⟩

/- A concrete instance: a "repeat" transition factor of the outer block of a Nest (held for 2 trials). -/

namespace Witness

/-- keys: (older + 1) * 3 + (newer + 1); level 0 = "same", level 1 = "different or no older trial" -/
def des : Design :=
  { factors := [{ id := 0, name := "a", levels := [⟨"a1", 1, #[]⟩, ⟨"a2", 1, #[]⟩], window := none },
                { id := 1, name := "rep", window := some { deps := [0], width := 2, stride := 1, start := none, kind := "transition" },
                  levels := [⟨"same", 1, #[false, false, false, false, true, false, false, false, true]⟩,
                             ⟨"diff", 1, #[true, true, true, true, false, true, true, true, false]⟩] }],
    block := .cross [0, 1] [0] [] true }

def a : Seq := [(0, [some 0, some 0, some 0, some 0, some 1, some 1])]

/-- start 1 (one own trial of preamble), held for two trials: empty in trials 0-1, then the level of the own trial -/
example : fillColumn des 1 ⟨2, true, 1, 1, 2⟩ (fun dep u => a.at dep u) 0 6 =
    .ok [none, none, some 0, some 0, some 1, some 1] := by rfl

/-- the defect F35 in these terms: asking `applies` with the whole-sequence index `i + 1` would label trial 1 -/
example : Layout.applies ⟨2, true, 1, 1, 2⟩ (1 + 1) = true ∧ Layout.applies ⟨2, true, 1, 1, 2⟩ (1 / 2 + 1) = false := by
  decide

/-- the hypothesis of `fillEntry_matching` at trial 4 (own trial 2: a1 → a2, key 5, only "diff" accepts) -/
example : C15.UniqueAt (des.factor 1)
    (Spec.windowKey des { deps := [0], width := 2, stride := 1, start := none, kind := "transition" }
      (fun dep g => a.at dep (g * 2 + 4 % 2)) (4 / 2)) :=
  ⟨1, by decide, by rfl, fun j hj hacc => by
    rcases j with _ | _ | j
    · exact absurd hacc (by decide)
    · rfl
    · exact absurd hj (Nat.not_lt.2 (Nat.le_add_left 2 j))⟩

end Witness

end SPModel.Fill
