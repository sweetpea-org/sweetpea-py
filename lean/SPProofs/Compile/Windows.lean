/-
  `windows` along the list of variables (`windows_cons`), the evaluation of the formula shapes that
  the run-length constraints emit, and the list facts they share.
-/
import SPProofs.Compile.Runs
import SPProofs.Logic.Lemmas

namespace List

theorem dropLast_take_succ {α : Type} (n : Nat) (l : List α) (h : n < l.length) :
    (l.take (n + 1)).dropLast = l.take n := by
  rw [List.dropLast_eq_take, List.take_take, List.length_take, Nat.min_eq_left h]
  exact congrArg (List.take · l) (Nat.min_eq_left (Nat.le_succ n))

theorem getLast!_singleton {α : Type} [Inhabited α] (a : α) : [a].getLast! = a := rfl

theorem getLast!_cons_cons {α : Type} [Inhabited α] (a b : α) (l : List α) :
    (a :: b :: l).getLast! = (b :: l).getLast! := by
  simp

theorem forall_mem_ite_nil {α : Type} (c : Prop) [Decidable c] (l : List α) (P : α → Prop) :
    (∀ x ∈ (if c then l else []), P x) ↔ (c → ∀ x ∈ l, P x) := by
  simp only [List.mem_ite_nil_right, and_imp]
  exact ⟨fun h hc x hx => h x hc hx, fun h x hc hx => h hc x hx⟩

end List

namespace SPModel.Compile

theorem windows_cons (n : Nat) (a : Int) (l : List Int) :
    windows n (a :: l) =
      if n ≤ l.length + 1 then (a :: l).take n :: windows n l else windows n l := by
  have h : ((a :: l).take n).length = n ↔ n ≤ l.length + 1 := by
    rw [List.length_take]
    exact ⟨fun h => h ▸ Nat.min_le_right _ _, Nat.min_eq_left⟩
  simp only [windows, List.length_cons, List.range_succ_eq_map, List.map_cons, List.map_map,
    List.filter_cons, List.drop_zero, beq_iff_eq, h]
  rfl

theorem windows_cons_of_le (n : Nat) (a : Int) (l : List Int) (h : n ≤ l.length + 1) :
    windows n (a :: l) = (a :: l).take n :: windows n l := by
  rw [windows_cons, if_pos h]

theorem windows_of_length_lt (n : Nat) (l : List Int) (h : l.length < n) : windows n l = [] := by
  induction l with
  | nil => rfl
  | cons a l ih =>
    rw [windows_cons, if_neg (Nat.not_le_of_lt (List.length_cons ▸ h)), ih (Nat.lt_of_succ_lt h)]

theorem eval_and_lits (σ : Assign) (l : List Int) :
    (Formula.and (lits l)).eval σ = l.all (litVal σ) := by
  rw [eval_and, lits, List.all_map]; rfl

theorem eval_or_lits (σ : Assign) (l : List Int) :
    (Formula.or (lits l)).eval σ = l.any (litVal σ) := by
  rw [eval_or, lits, List.any_map]; rfl

/-- the premise "a block begins at `y`" of the run-length implications -/
theorem eval_not_and_lit (σ : Assign) (x y : Int) :
    (Formula.and [.not (.lit x), .lit y]).eval σ = true ↔ litVal σ x = false ∧ litVal σ y = true := by
  show ((!litVal σ x && (litVal σ y && true)) = true) ↔ _
  rw [Bool.and_true, Bool.and_eq_true, Bool.not_eq_true']

theorem eval_andOrSingle (σ : Assign) (l : List Formula) :
    (andOrSingle l).eval σ = l.all (Formula.eval σ) := by
  unfold andOrSingle
  split
  · simp
  · exact eval_and σ _

theorem forall_mem_map_not_lit (σ : Assign) (vars : List Int) :
    (∀ f ∈ vars.map (fun v => Formula.not (.lit v)), f.eval σ = true) ↔
      NoStart (litVal σ) false vars := by
  rw [noStart_false_iff, List.forall_mem_map]
  exact forall₂_congr fun v _ => iff_of_eq (Bool.not_eq_true' _)

end SPModel.Compile
