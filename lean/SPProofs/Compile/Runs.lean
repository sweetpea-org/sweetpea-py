/-
  `Compile.runs` read along the list.  `sum_runs`: the run lengths add up to the number of trues.
  `runs_iff`: every run has a length with `P` iff every block of trues that begins somewhere in the
  list has (`EveryRun`, by recursion over the list; `ones` counts the leading trues).  With
  `P := fun _ => False` this says that no block begins (`NoStart`).
-/
import SPModel.Compile

namespace SPModel.Compile

/-- the loop body of `runs`; `runsFinish` is its last line (`runs_eq_foldl`) -/
def runsStep (p : List Nat × Nat) (x : Bool) : List Nat × Nat :=
  if x then (p.1, p.2 + 1) else (if p.2 > 0 then p.1 ++ [p.2] else p.1, 0)

def runsFinish (r : List Nat × Nat) : List Nat := if r.2 > 0 then r.1 ++ [r.2] else r.1

theorem runs_eq_foldl (xs : List Bool) : runs xs = runsFinish (xs.foldl runsStep ([], 0)) := rfl

theorem runsStep_false (p : List Nat × Nat) : runsStep p false = (runsFinish p, 0) := rfl

theorem sum_runsFinish (p : List Nat × Nat) : (runsFinish p).sum = p.1.sum + p.2 := by
  unfold runsFinish
  split
  · rw [List.sum_append, List.sum_singleton]
  · next h => rw [Nat.eq_zero_of_not_pos h, Nat.add_zero]

theorem sum_runsFinish_foldl (xs : List Bool) (p : List Nat × Nat) :
    (runsFinish (xs.foldl runsStep p)).sum = p.1.sum + p.2 + (xs.filter id).length := by
  induction xs generalizing p with
  | nil => exact sum_runsFinish p
  | cons x xs ih =>
    rw [List.foldl_cons, ih]
    cases x
    · rw [runsStep_false, sum_runsFinish]; rfl
    · exact Nat.succ_add_eq_add_succ ..

theorem sum_runs (xs : List Bool) : (runs xs).sum = (xs.filter id).length := by
  rw [runs_eq_foldl, sum_runsFinish_foldl]; simp

theorem forall_mem_runsFinish (P : Nat → Prop) (acc : List Nat) (c : Nat) :
    (∀ n ∈ runsFinish (acc, c), P n) ↔ (∀ n ∈ acc, P n) ∧ (0 < c → P c) := by
  unfold runsFinish
  split
  · next h => rw [List.forall_mem_append, List.forall_mem_singleton, imp_iff_right h]
  · next h => exact (and_iff_left fun h' => absurd h' h).symm

variable {α : Type} (v : α → Bool)

/-- the number of leading elements that `v` holds of -/
def ones : List α → Nat
  | [] => 0
  | a :: l => if v a then ones l + 1 else 0

theorem ones_le_length (l : List α) : ones v l ≤ l.length := by
  fun_induction ones v l with
  | case1 => exact Nat.le_refl 0
  | case2 a l _ ih => exact Nat.succ_le_succ ih
  | case3 a l _ => exact Nat.zero_le _

theorem le_ones_iff (n : Nat) (l : List α) (h : n ≤ l.length) :
    n ≤ ones v l ↔ (l.take n).all v = true := by
  induction n generalizing l with
  | zero => simp
  | succ n ih =>
    cases l with
    | nil => simp at h
    | cons a l =>
      cases ha : v a <;> simp [ones, ha, ih l (Nat.le_of_succ_le_succ h)]

theorem ones_eq_length_iff (l : List α) : ones v l = l.length ↔ l.all v = true := by
  have := le_ones_iff v _ l (Nat.le_refl _)
  rw [List.take_length] at this
  rw [← this, Nat.le_antisymm_iff]
  exact and_iff_right (ones_le_length v l)

/-- `d` is the default of `getLastD`; it is not reached. -/
theorem ones_eq_iff (d : α) (n : Nat) (l : List α) (h : n + 1 ≤ l.length) :
    ones v l = n ↔ (l.take n).all v = true ∧ v ((l.take (n + 1)).getLastD d) = false := by
  induction n generalizing l d with
  | zero =>
    match l, h with
    | a :: l, _ => cases ha : v a <;> simp [ones, ha]
  | succ n ih =>
    match l, h with
    | a :: l, h =>
      rw [List.take_succ_cons, List.take_succ_cons, List.getLastD_cons]
      cases ha : v a <;> simp [ones, ha, ih a l (Nat.le_of_succ_le_succ h)]

/-- every block that begins in `l` (at its head only if `prev = false`) has a length with `P` -/
def EveryRun (P : Nat → Prop) : Bool → List α → Prop
  | _, [] => True
  | prev, a :: l => (prev = false → v a = true → P (ones v l + 1)) ∧ EveryRun P (v a) l

/- the loop invariant: `c > 0` is a block already begun, which the leading trues of `l` continue -/
theorem forall_mem_runsFinish_foldl (P : Nat → Prop) (l : List α) (acc : List Nat) (c : Nat) :
    (∀ n ∈ runsFinish ((l.map v).foldl runsStep (acc, c)), P n) ↔
      (∀ n ∈ acc, P n) ∧ (0 < c → P (c + ones v l)) ∧ EveryRun v P (decide (0 < c)) l := by
  induction l generalizing acc c with
  | nil => exact (forall_mem_runsFinish P acc c).trans (by simp [ones, EveryRun])
  | cons a l ih =>
    rw [List.map_cons, List.foldl_cons]
    cases ha : v a
    · rw [runsStep_false, ih, forall_mem_runsFinish]
      simp [ones, EveryRun, ha, and_assoc]
    · rw [runsStep, if_pos rfl, ih, Nat.add_right_comm, Nat.add_assoc]
      cases c <;> simp [ones, EveryRun, ha]

theorem runs_iff (P : Nat → Prop) (l : List α) :
    (∀ n ∈ runs (l.map v), P n) ↔ EveryRun v P false l := by
  rw [runs_eq_foldl, forall_mem_runsFinish_foldl]
  simp

theorem everyRun_congr {P Q : Nat → Prop} (l : List α) (h : ∀ n, n ≤ l.length → (P n ↔ Q n))
    (prev : Bool) : EveryRun v P prev l ↔ EveryRun v Q prev l := by
  induction l generalizing prev with
  | nil => exact Iff.rfl
  | cons a l ih =>
    rw [EveryRun, EveryRun, h _ (Nat.succ_le_succ (ones_le_length v l)),
      ih (fun n hn => h n (Nat.le_succ_of_le hn))]

variable {v} in
theorem everyRun_true_of_false {P : Nat → Prop} {l : List α} (h : EveryRun v P false l) :
    EveryRun v P true l := by
  cases l with
  | nil => trivial
  | cons a l => exact ⟨nofun, h.2⟩

abbrev NoStart (prev : Bool) (l : List α) : Prop := EveryRun v (fun _ => False) prev l

theorem everyRun_iff_noStart {P : Nat → Prop} (l : List α) (h : ∀ n, n ≤ l.length → ¬ P n) (prev : Bool) :
    EveryRun v P prev l ↔ NoStart v prev l :=
  everyRun_congr v l (fun n hn => iff_false_intro (h n hn)) prev

theorem noStart_false_iff (l : List α) : NoStart v false l ↔ ∀ x ∈ l, v x = false := by
  induction l with
  | nil => simp [NoStart, EveryRun]
  | cons a l ih =>
    cases ha : v a <;> simp [NoStart, EveryRun, ha]
    exact ih

theorem noStart_iff (prev : Bool) (l : List α) :
    NoStart v prev l ↔ (prev = false → ∀ x ∈ l, v x = false) ∧ NoStart v true l := by
  cases prev
  · rw [noStart_false_iff]
    exact ⟨fun h => ⟨fun _ => h, everyRun_true_of_false ((noStart_false_iff v l).2 h)⟩, fun h => h.1 rfl⟩
  · simp

variable {v} in
theorem noStart_of_length_le {l : List α} (h : l.length ≤ ones v l + 1) : NoStart v true l := by
  fun_induction ones v l with
  | case1 => trivial
  | case2 a l hv ih => exact ⟨nofun, hv ▸ ih (Nat.le_of_succ_le_succ h)⟩
  | case3 a l hv =>
    cases l with
    | nil => exact ⟨nofun, trivial⟩
    | cons _ _ => exact absurd (Nat.le_of_succ_le_succ h) (Nat.not_succ_le_zero _)

theorem noStart_true_iff_getD (d : α) (l : List α) :
    NoStart v true l ↔ ∀ i, i + 1 < l.length → v (l.getD (i + 1) d) = true → v (l.getD i d) = true := by
  induction l with
  | nil => exact iff_of_true trivial fun _ h => absurd h (Nat.not_lt_zero _)
  | cons a l ih =>
    cases l with
    | nil => exact iff_of_true ⟨nofun, trivial⟩ fun _ h => absurd (Nat.lt_of_succ_lt_succ h) (Nat.not_lt_zero _)
    | cons b l =>
      have e : NoStart v true (a :: b :: l) ↔ (v b = true → v a = true) ∧ NoStart v true (b :: l) := by
        cases ha : v a <;> simp [NoStart, EveryRun, ha]
      rw [e, ih]
      constructor
      · rintro ⟨h0, h⟩ i hi
        cases i with
        | zero => exact h0
        | succ i => exact h i (Nat.lt_of_succ_lt_succ hi)
      · exact fun h => ⟨h 0 (Nat.succ_lt_succ (Nat.succ_pos _)), fun i hi => h (i + 1) (Nat.succ_lt_succ hi)⟩

end SPModel.Compile
