/-
  `AtLeastKInARow` along the list of variables: each emitted implication says of the window it is
  built from (`a0 :: a1 :: t`, cut to its length) that a block which begins there is long enough,
  or that none begins.  `mids_closing`: the middle implications of all windows and those that close
  the last one; `atLeastFormulas_iff`: all together are `EveryRun (k ≤ ·)`.
-/
import SPProofs.Compile.Windows

namespace SPModel.Compile

/-- `atLeastFormulas`' `startCase`, one of `mids`, `endCase`, `tail` (`forall_mem_atLeastFormulas`) -/
def startF (w0 : List Int) : Formula :=
  .imp (.lit (w0.headD 0)) (.and (lits ((w0.drop 1).dropLast)))

def midF (w : List Int) : Formula :=
  .imp (.and [.not (.lit (w.headD 0)), .lit ((w.drop 1).headD 0)]) (.and (lits (w.drop 2)))

def endF (last : List Int) : Formula :=
  .imp (.not (.lit ((last.drop 1).headD 0))) (.not (.or (lits (last.drop 2))))

def tailF (last : List Int) : List Formula :=
  ((List.range last.length).filter (· ≥ 3)).map
    (fun i => Formula.imp (.lit (last.getD i 0)) (.lit (last.getD (i - 1) 0)))

theorem forall_mem_atLeastFormulas (σ : Assign) (k : Nat) (vars w0 : List Int) (tl : List (List Int))
    (hw : windows (k + 1) vars = w0 :: tl) :
    (∀ f ∈ atLeastFormulas k vars, f.eval σ = true) ↔
      (startF w0).eval σ = true ∧ (∀ w ∈ w0 :: tl, (midF w).eval σ = true) ∧
        (endF (w0 :: tl).getLast!).eval σ = true ∧
        (1 < (w0 :: tl).length → ∀ f ∈ tailF (w0 :: tl).getLast!, f.eval σ = true) := by
  unfold atLeastFormulas
  simp only [hw, List.forall_mem_append, List.forall_mem_singleton, List.forall_mem_map, and_assoc,
    List.forall_mem_ite_nil, startF, midF, endF, tailF]

theorem eval_startF (σ : Assign) (j : Nat) (a0 a1 : Int) (t : List Int) (h : j ≤ t.length) :
    (startF ((a0 :: a1 :: t).take (j + 2))).eval σ = true ↔
      (litVal σ a0 = true → j + 1 ≤ ones (litVal σ) (a1 :: t) + 1) := by
  rw [startF, eval_imp, eval_and_lits, SPModel.eval_lit, List.take_succ_cons, List.headD_cons,
    List.drop_succ_cons, List.drop_zero, List.dropLast_take_succ j (a1 :: t) (Nat.lt_succ_of_le h),
    Nat.succ_le_succ_iff, le_ones_iff _ _ (a1 :: t) (Nat.le_succ_of_le h)]

theorem eval_midF (σ : Assign) (j : Nat) (a0 a1 : Int) (t : List Int) (h : j ≤ t.length) :
    (midF ((a0 :: a1 :: t).take (j + 2))).eval σ = true ↔
      (litVal σ a0 = false → litVal σ a1 = true → j + 1 ≤ ones (litVal σ) t + 1) := by
  rw [midF, eval_imp, eval_and_lits, eval_not_and_lit, and_imp, Nat.succ_le_succ_iff, le_ones_iff _ _ _ h]
  rfl

theorem eval_endF (σ : Assign) (a0 a1 : Int) (t : List Int) :
    (endF (a0 :: a1 :: t)).eval σ = true ↔ (litVal σ a1 = false → ∀ x ∈ t, litVal σ x = false) := by
  simp [endF, eval_imp, eval_not, eval_or_lits, SPModel.eval_lit]

theorem eval_tailF (σ : Assign) (a0 a1 : Int) (t : List Int) :
    (∀ f ∈ tailF (a0 :: a1 :: t), f.eval σ = true) ↔ NoStart (litVal σ) true t := by
  rw [noStart_true_iff_getD _ 0]
  simp only [tailF, List.forall_mem_map, List.mem_filter, List.mem_range, decide_eq_true_eq, and_imp,
    eval_imp, SPModel.eval_lit, List.length_cons]
  constructor
  · exact fun H i hi => H (i + 3) (Nat.add_lt_add_right hi 2) (Nat.le_add_left 3 i)
  · intro H i hi h3
    obtain ⟨i, rfl⟩ := Nat.exists_eq_add_of_le' h3
    exact H i (Nat.lt_of_add_lt_add_right (n := 2) hi)

/-- With a single window the tail implications follow from start, middle and end implication
    (the remark at `constraint.py:590`). -/
theorem noStart_of_single {α : Type} {v : α → Bool} {a0 a1 : α} {t : List α}
    (S : v a0 = true → t.length + 1 ≤ ones v (a1 :: t) + 1)
    (M : v a0 = false → v a1 = true → t.length + 1 ≤ ones v t + 1)
    (E : v a1 = false → ∀ x ∈ t, v x = false) : NoStart v true t := by
  cases h1 : v a1
  · exact everyRun_true_of_false ((noStart_false_iff v t).2 (E h1))
  · apply noStart_of_length_le
    cases h0 : v a0
    · exact Nat.le_of_succ_le (M h0 h1)
    · have := S h0
      rwa [ones, h1, if_pos rfl, Nat.succ_le_succ_iff] at this

/-- `c`: whether the tail implications are emitted; if not, the start implication stands in. -/
theorem mids_closing_single (σ : Assign) (a0 a1 : Int) (t : List Int)
    (c : Prop) (hc : ¬ c → litVal σ a0 = true → t.length + 1 ≤ ones (litVal σ) (a1 :: t) + 1) :
    ((∀ w ∈ windows (t.length + 2) (a0 :: a1 :: t), (midF w).eval σ = true) ∧
      (endF (windows (t.length + 2) (a0 :: a1 :: t)).getLast!).eval σ = true ∧
      (c → ∀ f ∈ tailF (windows (t.length + 2) (a0 :: a1 :: t)).getLast!, f.eval σ = true)) ↔
    EveryRun (litVal σ) (t.length + 1 ≤ ·) (litVal σ a0) (a1 :: t) := by
  -- the window is the whole list; a block that begins in `t` is too short
  rw [windows_cons_of_le (t.length + 2) a0 (a1 :: t) (Nat.le_refl _),
    windows_of_length_lt (t.length + 2) (a1 :: t) (Nat.lt_succ_self _),
    List.forall_mem_singleton, List.getLast!_singleton, eval_midF σ _ a0 a1 t (Nat.le_refl _),
    (List.take_of_length_le (Nat.le_refl _) : (a0 :: a1 :: t).take (t.length + 2) = _), eval_endF,
    eval_tailF, EveryRun,
    everyRun_iff_noStart _ t (fun n hn h' => Nat.not_succ_le_self _ (Nat.le_trans h' hn)), noStart_iff _ (litVal σ a1)]
  exact and_congr_right fun M => and_congr_right fun E =>
    ⟨fun T => Classical.byCases T fun h => noStart_of_single (hc h) M E, fun T _ => T⟩

theorem mids_closing (σ : Assign) (j : Nat) (a0 a1 : Int) (t : List Int) (h : j ≤ t.length) :
    ((∀ w ∈ windows (j + 2) (a0 :: a1 :: t), (midF w).eval σ = true) ∧
      (endF (windows (j + 2) (a0 :: a1 :: t)).getLast!).eval σ = true ∧
      ∀ f ∈ tailF (windows (j + 2) (a0 :: a1 :: t)).getLast!, f.eval σ = true) ↔
    EveryRun (litVal σ) (j + 1 ≤ ·) (litVal σ a0) (a1 :: t) := by
  induction t generalizing a0 a1 with
  | nil =>
    cases Nat.le_zero.1 h
    have := mids_closing_single σ a0 a1 [] True (absurd trivial)
    rwa [true_imp_iff] at this
  | cons a2 t ih =>
    rcases Nat.eq_or_lt_of_le h with rfl | hlt
    · simpa only [true_imp_iff] using mids_closing_single σ a0 a1 (a2 :: t) True (absurd trivial)
    · -- the window at `a0`: its middle implication is about a block at `a1`; the rest is `ih`
      have e1 := windows_cons_of_le (j + 2) a1 (a2 :: t) (Nat.succ_le_succ hlt)
      rw [windows_cons_of_le _ a0 _ (Nat.le_succ_of_le (Nat.succ_le_succ hlt)), e1, List.getLast!_cons_cons,
        ← e1, List.forall_mem_cons, and_assoc, eval_midF σ j a0 a1 (a2 :: t) h,
        ih a1 a2 (Nat.le_of_lt_succ hlt)]
      rfl

theorem atLeastFormulas_iff_of_length_gt (σ : Assign) (j : Nat) (a0 a1 : Int) (t : List Int)
    (h : j ≤ t.length) :
    (∀ f ∈ atLeastFormulas (j + 1) (a0 :: a1 :: t), f.eval σ = true) ↔
      EveryRun (litVal σ) (j + 1 ≤ ·) false (a0 :: a1 :: t) := by
  have hw := windows_cons_of_le (j + 2) a0 (a1 :: t) (Nat.succ_le_succ (Nat.succ_le_succ h))
  rw [forall_mem_atLeastFormulas σ (j + 1) _ _ _ hw, ← hw, eval_startF σ j a0 a1 t h, EveryRun,
    eq_self_iff_true, true_imp_iff]
  refine and_congr_right fun S => ?_
  rcases Nat.eq_or_lt_of_le h with rfl | hlt
  · exact mids_closing_single σ a0 a1 t _ fun _ => S
  · -- two windows or more, so the tail implications are emitted
    rw [← mids_closing σ j a0 a1 t h]
    refine and_congr_right fun _ => and_congr_right fun _ => imp_iff_right ?_
    cases t with
    | nil => cases hlt
    | cons a2 t =>
      rw [hw, windows_cons_of_le (j + 2) a1 (a2 :: t) (Nat.succ_le_succ hlt)]
      exact Nat.succ_lt_succ (Nat.succ_pos _)

theorem atLeastFormulas_iff_of_length_eq (σ : Assign) (vars : List Int) :
    (∀ f ∈ atLeastFormulas vars.length vars, f.eval σ = true) ↔
      EveryRun (litVal σ) (vars.length ≤ ·) false vars := by
  -- no window: every variable implies all of them, so a block at the head is the whole list and none begins later
  unfold atLeastFormulas
  simp only [windows_of_length_lt _ vars (Nat.lt_succ_self _), beq_self_eq_true, if_true,
    List.forall_mem_map, eval_imp, eval_and_lits, SPModel.eval_lit]
  cases vars with
  | nil => simp [EveryRun]
  | cons a l =>
    rw [EveryRun, List.length_cons,
      everyRun_iff_noStart _ l (fun n hn h' => Nat.not_succ_le_self _ (Nat.le_trans h' hn)),
      Nat.succ_le_succ_iff, le_ones_iff _ _ l (Nat.le_refl _), List.take_length]
    cases ha : litVal σ a
    · simp [ha, noStart_false_iff]
    · simp only [List.forall_mem_cons, List.all_cons, ha, Bool.true_and, true_imp_iff]
      exact and_congr_right fun hall => iff_of_true (fun _ _ _ => hall)
        (noStart_of_length_le (Nat.le_succ_of_le ((le_ones_iff _ _ l (Nat.le_refl _)).2
          (by rwa [List.take_length]))))

theorem atLeastFormulas_iff (k : Nat) (hk : 0 < k) (vars : List Int) (σ : Assign) :
    (∀ f ∈ atLeastFormulas k vars, f.eval σ = true) ↔ EveryRun (litVal σ) (k ≤ ·) false vars := by
  rcases Nat.lt_trichotomy vars.length k with hL | rfl | hL
  · rw [everyRun_iff_noStart _ vars (fun n hn h' => Nat.lt_irrefl _ (Nat.lt_of_lt_of_le hL (Nat.le_trans h' hn))),
      ← forall_mem_map_not_lit]
    unfold atLeastFormulas
    simp only [windows_of_length_lt (k + 1) vars (Nat.lt_succ_of_lt hL),
      show (vars.length == k) = false from beq_false_of_ne (Nat.ne_of_lt hL), Bool.false_eq_true, if_false]
  · exact atLeastFormulas_iff_of_length_eq σ vars
  · obtain ⟨j, rfl⟩ := Nat.exists_eq_add_one_of_ne_zero (Nat.ne_of_gt hk)
    obtain _ | ⟨a0, _ | ⟨a1, t⟩⟩ := vars
    · cases hL
    · exact absurd hL (Nat.not_lt.2 (Nat.succ_le_succ (Nat.zero_le j)))
    · exact atLeastFormulas_iff_of_length_gt σ j a0 a1 t (Nat.le_of_succ_le_succ (Nat.le_of_succ_le_succ hL))

end SPModel.Compile
