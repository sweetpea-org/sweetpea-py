/-
  `ExactlyKInARow` along the list of variables.  The model builds the regular implications by window
  index (`ws.getD (idx ± 1)`); `RegHolds` says the same of a first window and those after it, so that
  `regular_closing` can peel one window at a time: a block that begins at a window fills it and ends
  there, and none begins after the last window's first variable.
-/
import SPProofs.Compile.Windows

theorem Nat.forall_lt_iff_zero_and_succ (Q : Nat → Prop) (n : Nat) :
    (∀ i, i < n → Q i) ↔ (0 < n → Q 0) ∧ ∀ i, i + 1 < n → Q (i + 1) := by
  constructor
  · exact fun H => ⟨H 0, fun i h => H (i + 1) h⟩
  · rintro ⟨H0, H⟩ i h
    cases i with
    | zero => exact H0 h
    | succ i => exact H i h

/-- read from the other end: `i` and `j` with `i + j + 2 = n` are mirror positions below `n - 1` -/
theorem Nat.forall_mirror {n : Nat} {P Q : Nat → Prop} (h : ∀ i j, i + j + 2 = n → (P i ↔ Q j)) :
    (∀ i, i + 1 < n → P i) ↔ ∀ j, j + 1 < n → Q j := by
  constructor
  · intro H j hj
    obtain ⟨i, rfl⟩ := Nat.exists_eq_add_of_le' hj
    exact (h i j rfl).1 (H i (Nat.add_lt_add_left (Nat.succ_lt_succ (Nat.succ_pos j)) i))
  · intro H i hi
    obtain ⟨j, rfl⟩ := Nat.exists_eq_add_of_le' hi
    exact (h i j (Nat.add_comm i j ▸ rfl)).2 (H j (Nat.add_lt_add_left (Nat.succ_lt_succ (Nat.succ_pos i)) j))

namespace SPModel.Compile

/-- the model's `p` (for `idx > 0`) and `q` at window `idx` of `ws`; `pw` is the window before `ws` -/
def regP (pw : List Int) (ws : List (List Int)) (idx : Nat) : Formula :=
  .and [.not (.lit (((pw :: ws).getD idx []).headD 0)), .lit ((ws.getD idx []).headD 0)]

def regQ (k : Nat) (ws : List (List Int)) (idx : Nat) : Formula :=
  if idx < ws.length - 1 then
    andOrSingle (lits ((ws.getD idx []).drop 1) ++ [.not (.lit ((ws.getD (idx + 1) []).getLastD 0))])
  else
    (if ((ws.getD idx []).drop 1).length > 1 then .and (lits ((ws.getD idx []).drop 1))
     else .lit ((ws.getD idx []).getD (k - 1) 0))

/-- the model's `tail`: the last window read backwards -/
def closeF (lastRun : List Int) : List Formula :=
  (List.range (lastRun.reverse.length - 1)).map
    (fun i => Formula.imp (.lit (lastRun.reverse.getD i 0)) (.lit (lastRun.reverse.getD (i + 1) 0)))

/-- the model's `min trim ws.length` for `ws = w :: tl`: how many windows get a regular implication
    (all, except the last when `k = 1`) -/
def trimLen (k : Nat) (tl : List (List Int)) : Nat := if k > 1 then tl.length + 1 else tl.length

/-- all implications built from the windows `w :: tl` hold; `p0` is the premise of the first -/
def RegHolds (σ : Assign) (k : Nat) (p0 : Formula) (w : List Int) (tl : List (List Int)) : Prop :=
  ((0 < trimLen k tl → (Formula.imp p0 (regQ k (w :: tl) 0)).eval σ = true) ∧
    ∀ idx, idx + 1 < trimLen k tl → (Formula.imp (regP w tl idx) (regQ k tl idx)).eval σ = true) ∧
  ((w :: tl).getLast!.length > 1 → ∀ f ∈ closeF (w :: tl).getLast!, f.eval σ = true)

theorem regP_succ (pw w : List Int) (ws : List (List Int)) (idx : Nat) :
    regP pw (w :: ws) (idx + 1) = regP w ws idx := rfl

theorem regQ_succ (k : Nat) (w : List Int) (ws : List (List Int)) (idx : Nat) :
    regQ k (w :: ws) (idx + 1) = regQ k ws idx := by
  simp only [regQ, List.getD_cons_succ, List.length_cons, Nat.add_sub_cancel, Nat.lt_sub_iff_add_lt]

theorem trimLen_cons (k : Nat) (w : List Int) (tl : List (List Int)) :
    trimLen k (w :: tl) = trimLen k tl + 1 := by
  unfold trimLen; split <;> rfl

theorem forall_mem_exactlyInARowFormulas (σ : Assign) (k : Nat) (vars w0 : List Int) (tl : List (List Int))
    (hw : windows k vars = w0 :: tl) :
    (∀ f ∈ exactlyInARowFormulas k vars, f.eval σ = true) ↔
      RegHolds σ k (.lit (w0.headD 0)) w0 tl := by
  unfold exactlyInARowFormulas
  simp only [hw, List.forall_mem_append, List.forall_mem_ite_nil]
  refine and_congr ?_ (by simp only [closeF])
  have hN : min (if k > 1 then (w0 :: tl).length else (w0 :: tl).length - 1) (w0 :: tl).length =
      trimLen k tl := by
    unfold trimLen; split <;> simp
  simp only [List.forall_mem_map, List.mem_range, hN]
  -- window 0 has the bare premise `p0`; window `idx + 1` of `w0 :: tl` is window `idx` of `tl`
  rw [Nat.forall_lt_iff_zero_and_succ]
  refine and_congr Iff.rfl (forall_congr' fun idx => imp_congr_right fun _ => ?_)
  rw [if_pos (Nat.succ_pos idx), ← regQ_succ k w0 tl idx]
  rfl

theorem eval_regQ_cons_cons (σ : Assign) (j : Nat) (a : Int) (t : List Int) (h : j + 1 ≤ t.length)
    (ws : List (List Int)) :
    (regQ (j + 1) ((a :: t).take (j + 1) :: t.take (j + 1) :: ws) 0).eval σ = true ↔
      ones (litVal σ) t = j := by
  rw [ones_eq_iff _ 0 _ _ h]
  simp [regQ, eval_andOrSingle, ← eval_and, eval_and_lits, eval_not, SPModel.eval_lit]

theorem eval_regQ_singleton (σ : Assign) (a : Int) (t : List Int) (ht : 0 < t.length) :
    (regQ (t.length + 1) [(a :: t).take (t.length + 1)] 0).eval σ = true ↔
      ones (litVal σ) t = t.length := by
  rw [ones_eq_length_iff, (List.take_of_length_le (Nat.le_refl _) : (a :: t).take (t.length + 1) = _)]
  match t, ht with
  | [x], _ => simp [regQ, SPModel.eval_lit]
  | x :: y :: t, _ => simp [regQ, eval_and_lits]

theorem eval_closeF (σ : Assign) (l : List Int) :
    (∀ f ∈ closeF l, f.eval σ = true) ↔ NoStart (litVal σ) true l := by
  rw [noStart_true_iff_getD _ 0]
  simp only [closeF, List.forall_mem_map, List.mem_range, eval_imp, SPModel.eval_lit, List.length_reverse,
    Nat.lt_sub_iff_add_lt, List.getD_eq_getElem?_getD]
  -- by `h`, position `i` of the reverse is position `j + 1` of `l`, and `i + 1` is `j`
  refine Nat.forall_mirror fun i j h => ?_
  rw [@List.getElem?_reverse' _ l i (j + 1) h, @List.getElem?_reverse' _ l (i + 1) j (Nat.add_right_comm i 1 j ▸ h)]

theorem regular_closing_single (σ : Assign) (p0 : Formula) (prev : Bool) (a : Int) (t : List Int)
    (hp : p0.eval σ = true ↔ prev = false ∧ litVal σ a = true) :
    RegHolds σ (t.length + 1) p0 ((a :: t).take (t.length + 1)) [] ↔
      EveryRun (litVal σ) (· = t.length + 1) prev (a :: t) := by
  rw [RegHolds, List.getLast!_singleton, EveryRun,
    everyRun_iff_noStart _ t (fun n hn h' => Nat.not_succ_le_self _ (h' ▸ hn))]
  cases t with
  | nil => simp [trimLen, NoStart, EveryRun, ones]
  | cons x t =>
    rw [trimLen, if_pos (show (x :: t).length + 1 > 1 from Nat.succ_lt_succ (Nat.succ_pos _)), eval_imp, hp,
      eval_regQ_singleton σ a (x :: t) (Nat.succ_pos _),
      (List.take_of_length_le (Nat.le_refl _) : (a :: x :: t).take ((x :: t).length + 1) = _),
      eval_closeF, Nat.succ_inj]
    simp [NoStart, EveryRun]

theorem regular_closing (σ : Assign) (j : Nat) (p0 : Formula) (prev : Bool) (a : Int) (t : List Int)
    (hp : p0.eval σ = true ↔ prev = false ∧ litVal σ a = true) (h : j ≤ t.length) :
    RegHolds σ (j + 1) p0 ((a :: t).take (j + 1)) (windows (j + 1) t) ↔
      EveryRun (litVal σ) (· = j + 1) prev (a :: t) := by
  induction t generalizing p0 prev a with
  | nil => exact Nat.le_zero.1 h ▸ regular_closing_single σ p0 prev a [] hp
  | cons a' t ih =>
    rcases Nat.eq_or_lt_of_le h with rfl | hlt
    · rw [windows_of_length_lt _ (a' :: t) (Nat.lt_succ_self _)]
      exact regular_closing_single σ p0 prev a (a' :: t) hp
    · -- the window at `a`: a block there has `j` more trues, then ends; the next premise,
      -- `regP _ _ 0`, says that a block begins at `a'`
      rw [windows_cons_of_le (j + 1) a' t hlt, RegHolds, trimLen_cons, List.getLast!_cons_cons, EveryRun,
        ← ih (regP ((a :: a' :: t).take (j + 1)) ((a' :: t).take (j + 1) :: windows (j + 1) t) 0)
          (litVal σ a) a' (eval_not_and_lit σ _ _) (Nat.le_of_lt_succ hlt),
        RegHolds, imp_iff_right (Nat.succ_pos _), and_assoc, eval_imp, hp,
        eval_regQ_cons_cons σ j a (a' :: t) hlt, Nat.succ_inj]
      simp only [Nat.succ_lt_succ_iff, Nat.forall_lt_iff_zero_and_succ _ (trimLen _ _), regP_succ, regQ_succ, and_imp]

theorem exactlyInARowFormulas_iff (k : Nat) (hk : 0 < k) (vars : List Int) (σ : Assign) :
    (∀ f ∈ exactlyInARowFormulas k vars, f.eval σ = true) ↔
      EveryRun (litVal σ) (· = k) false vars := by
  by_cases hL : vars.length < k
  · rw [everyRun_iff_noStart _ vars (fun n hn (h' : n = k) => Nat.lt_irrefl _ (Nat.lt_of_le_of_lt (h' ▸ hn) hL)),
      ← forall_mem_map_not_lit]
    unfold exactlyInARowFormulas
    simp only [windows_of_length_lt k vars hL, List.length_nil, Nat.min_zero, List.range_zero,
      List.map_nil, List.nil_append]
  · obtain ⟨j, rfl⟩ := Nat.exists_eq_add_one_of_ne_zero (Nat.ne_of_gt hk)
    cases vars with
    | nil => exact absurd hk hL
    | cons a t =>
      have h : j ≤ t.length := Nat.le_of_succ_le_succ (Nat.le_of_not_lt hL)
      rw [forall_mem_exactlyInARowFormulas σ (j + 1) _ _ _ (windows_cons_of_le (j + 1) a t (Nat.succ_le_succ h))]
      exact regular_closing σ j _ false a t (by rw [SPModel.eval_lit]; exact (and_iff_right rfl).symm) h

end SPModel.Compile
