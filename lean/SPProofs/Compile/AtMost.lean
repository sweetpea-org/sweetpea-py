/-
  `AtMostKInARow` along the list of variables: the request of a window says that the window is not
  a block of trues.
-/
import SPProofs.Compile.Windows

namespace SPModel.Compile

theorem everyRun_le_false {α : Type} (v : α → Bool) (k : Nat) (l : List α) :
    EveryRun v (· ≤ k) false l ↔ ones v l ≤ k ∧ EveryRun v (· ≤ k) true l := by
  cases l with
  | nil => simp [EveryRun, ones]
  | cons a l => cases ha : v a <;> simp [EveryRun, ones, ha]

/-- blocks of at most `k` trues, peeled as `windows_cons` peels the windows -/
theorem everyRun_le_cons {α : Type} (v : α → Bool) (k : Nat) (a : α) (l : List α) :
    EveryRun v (· ≤ k) false (a :: l) ↔ ones v (a :: l) ≤ k ∧ EveryRun v (· ≤ k) false l := by
  rw [everyRun_le_false, everyRun_le_false v k l]
  cases ha : v a <;> simp [EveryRun, ones, ha, everyRun_le_false]
  exact fun h _ => Nat.le_of_succ_le h

theorem holds_lt_take (σ : Assign) (k : Nat) (l : List Int) (h : k + 1 ≤ l.length) :
    Request.holds { rel := .lt, k := k + 1, vars := l.take (k + 1) } σ = true ↔
      ones (litVal σ) l ≤ k := by
  have hl : (l.take (k + 1)).length = k + 1 := List.length_take_of_le h
  have hle := hl ▸ List.length_filter_le (litVal σ) (l.take (k + 1))
  rw [← Nat.not_lt, Nat.lt_iff_add_one_le, le_ones_iff _ _ l h, List.all_eq_true,
    ← List.length_filter_eq_length_iff, hl]
  exact decide_eq_true_iff.trans ⟨Nat.ne_of_lt, Nat.lt_of_le_of_ne hle⟩

theorem atMostRequests_iff (k : Nat) (vars : List Int) (σ : Assign) :
    (∀ r ∈ atMostRequests k vars, r.holds σ = true) ↔ EveryRun (litVal σ) (· ≤ k) false vars := by
  unfold atMostRequests
  induction vars with
  | nil => exact ⟨fun _ => trivial, fun _ _ h => nomatch h⟩
  | cons a l ih =>
    rw [everyRun_le_cons, ← ih, windows_cons]
    split
    · next h => rw [List.map_cons, List.forall_mem_cons, holds_lt_take σ k (a :: l) h]
    · next h =>
      -- no window begins at `a`: at most `k` variables are left
      exact (and_iff_right (Nat.le_trans (ones_le_length _ _) (Nat.le_of_lt_succ (Nat.lt_of_not_le h)))).symm

end SPModel.Compile
