/-
  Partial correctness of the switching conversion (`distSwitch_good`, `toCnfSwitching_sem`): whenever the
  fuelled model terminates normally the result has exactly the formula's models on the original variables.
-/
import SPProofs.Logic.Build

namespace SPModel.Switch
open Formula

theorem WFs_mono {m m' : Nat} (h : m ≤ m') : ∀ l : List Formula, Formula.WFs m l → Formula.WFs m' l :=
  fun l hl => WF_mono h (.and l) hl

theorem evalAll_agree {m : Nat} {σ τ : Assign} (hag : AgreeBelow m σ τ) :
    ∀ l : List Formula, Formula.WFs m l → evalAll σ l = evalAll τ l :=
  fun l hl => eval_congr hag (.and l) hl

/-- `g` over variables `< m'` refines `f` over variables `< m`; the last clause keeps the value, true or
    false, not only satisfiability. -/
def Sem (f : Formula) (m : Nat) (g : Formula) (m' : Nat) : Prop :=
  m ≤ m' ∧ (∀ τ, g.eval τ = true → f.eval τ = true) ∧
    (∀ σ, ∃ τ, AgreeBelow m σ τ ∧ g.eval τ = f.eval σ)

theorem Sem.of_eq {f g : Formula} (m : Nat) (h : ∀ τ, g.eval τ = f.eval τ) : Sem f m g m :=
  ⟨Nat.le_refl _, fun τ hg => h τ ▸ hg, fun σ => ⟨σ, AgreeBelow.refl _ _, h σ⟩⟩

theorem Sem.refl (f : Formula) (m : Nat) : Sem f m f m := Sem.of_eq m fun _ => rfl

theorem Sem.trans {f g k : Formula} {m m1 m2 : Nat} (h₁ : Sem f m g m1) (h₂ : Sem g m1 k m2) :
    Sem f m k m2 := by
  obtain ⟨le1, s1, c1⟩ := h₁
  obtain ⟨le2, s2, c2⟩ := h₂
  refine ⟨Nat.le_trans le1 le2, fun τ hk => s1 τ (s2 τ hk), fun σ => ?_⟩
  obtain ⟨τ1, ag1, hg⟩ := c1 σ
  obtain ⟨τ2, ag2, hk⟩ := c2 τ1
  exact ⟨τ2, ag1.trans (ag2.mono le1), hk.trans hg⟩

/-- The invariant of `distSwitch`. -/
structure Good (f : Formula) (m : Nat) (g : Formula) (m' : Nat) : Prop where
  sem : Sem f m g m'
  wf : g.WF m'
  shape : g.Shape
  notOr : f.isOr = false → g.isOr = false

theorem Good.of_ok {f g : Formula} {m m' : Nat}
    (h : (.ok (f, m) : Except PyErr (Formula × Nat)) = .ok (g, m')) (hwf : f.WF m) (hs : f.Shape) :
    Good f m g m' := by
  cases h; exact ⟨Sem.refl f m, hwf, hs, fun h => h⟩

theorem Good.of_sem {f g k : Formula} {m m1 m2 : Nat} (h₁ : Sem f m g m1) (h₂ : Good g m1 k m2)
    (hno : f.isOr = false → k.isOr = false) : Good f m k m2 :=
  ⟨h₁.trans h₂.sem, h₂.wf, h₂.shape, hno⟩

/-- the `And` of pairwise `Or`s that `__naive_combination` builds -/
def crossAnd (c0 c1 : Formula) : Formula :=
  Formula.and (((listForCrossing c0).flatMap (fun x => (listForCrossing c1).map (fun y => [x, y]))).map
    buildOr)

theorem eval_crossAnd (τ : Assign) (c0 c1 : Formula) (h0 : c0.isOr = false) (h1 : c1.isOr = false) :
    (crossAnd c0 c1).eval τ = (c0.eval τ || c1.eval τ) := by
  rw [← all_listForCrossing τ c0 h0, ← all_listForCrossing τ c1 h1, crossAnd, eval_and]
  simp only [List.all_map, List.all_flatMap, Function.comp_def, eval_buildOr, List.any_cons, List.any_nil,
    Bool.or_false, List.all_or_left, List.all_or_right]

theorem crossAnd_children {P : Formula → Prop} (hP : ∀ l, (∀ z ∈ l, P z) → P (buildOr l))
    {c0 c1 : Formula} (h0 : ∀ x ∈ listForCrossing c0, P x) (h1 : ∀ x ∈ listForCrossing c1, P x) :
    ∀ g ∈ ((listForCrossing c0).flatMap (fun x => (listForCrossing c1).map (fun y => [x, y]))).map buildOr,
      P g := by
  simp only [List.mem_map, List.mem_flatMap]
  rintro g ⟨l, ⟨x, hx, y, hy, rfl⟩, rfl⟩
  exact hP _ (List.forall_mem_cons.2 ⟨h0 x hx, List.forall_mem_singleton.2 (h1 y hy)⟩)

theorem WF_crossAnd {n : Nat} (c0 c1 : Formula) (h0 : c0.WF n) (h1 : c1.WF n) : (crossAnd c0 c1).WF n :=
  (WFs_iff n _).2 <| crossAnd_children (WF_buildOr n) (fun x hx => WF_of_vars (vars_listForCrossing c0 x hx) h0)
    fun x hx => WF_of_vars (vars_listForCrossing c1 x hx) h1

theorem Shape_crossAnd (c0 c1 : Formula) (h0 : c0.Shape) (h1 : c1.Shape) : (crossAnd c0 c1).Shape :=
  (Shapes_iff _).2 <| crossAnd_children Shape_buildOr (fun x hx => Shape_listForCrossing c0 x hx h0)
    fun x hx => Shape_listForCrossing c1 x hx h1

theorem naiveCombination_eq (c0 c1 : Formula) (rest : List Formula) :
    naiveCombination c0 c1 rest =
      if rest.isEmpty then crossAnd c0 c1 else buildOr (crossAnd c0 c1 :: rest) := rfl

/-- the common last line of `naiveCombination` and `switchingCombination` -/
theorem eval_withRest (τ : Assign) (comb : Formula) (rest : List Formula) :
    (if rest.isEmpty then comb else buildOr (comb :: rest)).eval τ = (comb.eval τ || rest.any (eval τ)) := by
  cases rest with
  | nil => simp
  | cons r rs => simp [eval_buildOr]

theorem withRest_closed {P : Formula → Prop} (hP : ∀ l, (∀ g ∈ l, P g) → P (buildOr l))
    {comb : Formula} {rest : List Formula} (hc : P comb) (hr : ∀ r ∈ rest, P r) :
    P (if rest.isEmpty then comb else buildOr (comb :: rest)) := by
  split
  · exact hc
  · exact hP _ (List.forall_mem_cons.2 ⟨hc, hr⟩)

theorem naiveCombination_good {n : Nat} {c0 c1 : Formula} {rest : List Formula}
    (h : ∀ x ∈ c0 :: c1 :: rest, x.WF n ∧ x.Shape ∧ x.isOr = false) :
    Good (.or (c0 :: c1 :: rest)) n (naiveCombination c0 c1 rest) n := by
  obtain ⟨h0, h1, hr⟩ := List.forall_mem_cons.1 h |>.imp_right List.forall_mem_cons.1
  rw [naiveCombination_eq]
  refine ⟨Sem.of_eq n fun τ => ?_,
    withRest_closed (WF_buildOr n) (WF_crossAnd _ _ h0.1 h1.1) fun r hr' => (hr r hr').1,
    withRest_closed Shape_buildOr (Shape_crossAnd _ _ h0.2.1 h1.2.1) fun r hr' => (hr r hr').2.1, nofun⟩
  rw [eval_withRest, eval_crossAnd τ _ _ h0.2.2 h1.2.2, eval_or, List.any_cons, List.any_cons, Bool.or_assoc]

def switchAnd (c0 c1 : Formula) (fr : Nat) : Formula :=
  Formula.and [.or [.not (.lit fr), c0], .or [.lit fr, c1]]

theorem switchingCombination_eq (c0 c1 : Formula) (rest : List Formula) (fr : Nat) :
    switchingCombination c0 c1 rest fr =
      (if rest.isEmpty then switchAnd c0 c1 fr else buildOr (switchAnd c0 c1 fr :: rest), fr + 1) := rfl

theorem eval_switchAnd (τ : Assign) (c0 c1 : Formula) (fr : Nat) (hfr : 0 < fr) :
    (switchAnd c0 c1 fr).eval τ = ((!τ fr || c0.eval τ) && (τ fr || c1.eval τ)) := by
  simp [switchAnd, eval, evalAll, evalAny, litVal, hfr]

theorem WF_switchAnd (c0 c1 : Formula) (fr : Nat) (hfr : 0 < fr) (h0 : c0.WF fr) (h1 : c1.WF fr) :
    (switchAnd c0 c1 fr).WF (fr + 1) := by
  have h : ¬ fr = 0 := Nat.ne_of_gt hfr
  have h0' := WF_mono (Nat.le_succ fr) c0 h0
  have h1' := WF_mono (Nat.le_succ fr) c1 h1
  simp [switchAnd, Formula.WF, Formula.WFs, h, h0', h1']

theorem Shape_switchAnd (c0 c1 : Formula) (fr : Nat) (h0 : c0.Shape) (h1 : c1.Shape)
    (o0 : c0.isOr = false) (o1 : c1.isOr = false) : (switchAnd c0 c1 fr).Shape := by
  simp only [switchAnd, Formula.Shape, Formula.Shapes, Formula.isLit, List.mem_cons, List.not_mem_nil,
    or_false, forall_eq_or_imp, forall_eq, and_true, true_and]
  exact ⟨⟨h0, rfl, o0⟩, h1, rfl, o1⟩

/-- the switch may take either value if the pair holds; set to `a` it makes the pair `a || b` -/
theorem switch_bool :
    (∀ s a b r : Bool, ((!s || a) && (s || b) || r) = true → (a || (b || r)) = true) ∧
    ∀ a b r : Bool, ((!a || a) && (a || b) || r) = (a || (b || r)) := by decide

theorem Sem.switch (c0 c1 : Formula) (rest : List Formula) (fr : Nat) (hfr : 0 < fr)
    (h0 : c0.WF fr) (h1 : c1.WF fr) (hr : ∀ r ∈ rest, r.WF fr) :
    Sem (.or (c0 :: c1 :: rest)) fr
      (if rest.isEmpty then switchAnd c0 c1 fr else buildOr (switchAnd c0 c1 fr :: rest)) (fr + 1) := by
  refine ⟨Nat.le_succ _, fun τ hg => ?_, fun σ => ?_⟩
  · rw [eval_withRest, eval_switchAnd _ _ _ _ hfr] at hg
    rw [eval_or, List.any_cons, List.any_cons]
    exact switch_bool.1 _ _ _ _ hg
  · let τ : Assign := fun v => if v = fr then c0.eval σ else σ v
    have hag : AgreeBelow fr σ τ := fun v _ hv => (if_neg (Nat.ne_of_lt hv)).symm
    refine ⟨τ, hag, ?_⟩
    rw [eval_withRest, eval_switchAnd _ _ _ _ hfr, ← eval_congr hag c0 h0, ← eval_congr hag c1 h1,
      ← eval_or, ← eval_congr hag (.or rest) ((WFs_iff _ _).2 hr), eval_or, eval_or,
      show τ fr = c0.eval σ from if_pos rfl, List.any_cons, List.any_cons]
    exact switch_bool.2 _ _ _

theorem switchingCombination_good {fr : Nat} {c0 c1 : Formula} {rest : List Formula} (hfr : 0 < fr)
    (h : ∀ x ∈ c0 :: c1 :: rest, x.WF fr ∧ x.Shape ∧ x.isOr = false) :
    Good (.or (c0 :: c1 :: rest)) fr
      (if rest.isEmpty then switchAnd c0 c1 fr else buildOr (switchAnd c0 c1 fr :: rest)) (fr + 1) := by
  obtain ⟨h0, h1, hr⟩ := List.forall_mem_cons.1 h |>.imp_right List.forall_mem_cons.1
  exact ⟨Sem.switch c0 c1 rest fr hfr h0.1 h1.1 fun r hr' => (hr r hr').1,
    withRest_closed (WF_buildOr _) (WF_switchAnd _ _ _ hfr h0.1 h1.1)
      fun r hr' => WF_mono (Nat.le_succ fr) r (hr r hr').1,
    withRest_closed Shape_buildOr (Shape_switchAnd _ _ _ h0.2.1 h1.2.1 h0.2.2 h1.2.2)
      fun r hr' => (hr r hr').2.1, nofun⟩

/-- the body of `distSwitch`'s fold over the children, with `D` for the recursive call -/
def foldStep (D : Formula → Nat → Except PyErr (Formula × Nat)) (acc : List Formula × Nat) (e : Formula) :
    Except PyErr (List Formula × Nat) :=
  match D e acc.2 with
  | .ok (g, fr) => .ok (acc.1 ++ [g], fr)
  | .error e => .error e

/-- What the fold of `distSwitch` over the children `l` establishes of its results `gs`. -/
structure FoldGood (l : List Formula) (m : Nat) (gs : List Formula) (m' : Nat) : Prop where
  le : m ≤ m'
  wf : ∀ g ∈ gs, g.WF m'
  shape : ∀ g ∈ gs, g.Shape
  notOr : (∀ e ∈ l, e.isOr = false) → ∀ g ∈ gs, g.isOr = false
  soundAll : ∀ τ, (∀ g ∈ gs, g.eval τ = true) → ∀ e ∈ l, e.eval τ = true
  soundAny : ∀ τ, (∃ g ∈ gs, g.eval τ = true) → ∃ e ∈ l, e.eval τ = true
  compl : ∀ σ, ∃ τ, AgreeBelow m σ τ ∧ gs.map (eval τ) = l.map (eval σ)

/-- `hD` is the induction hypothesis as `fun_induction distSwitch` states it. -/
theorem fold_spec {D : Formula → Nat → Except PyErr (Formula × Nat)}
    (hD : ∀ (a : List Formula × Nat) e g m', D e a.2 = .ok (g, m') → 0 < a.2 → e.WF a.2 → e.Shape →
      Good e a.2 g m')
    {l cs : List Formula} {m m' : Nat} (h : l.foldlM (foldStep D) ([], m) = .ok (cs, m'))
    (hm : 0 < m) (hwf : Formula.WFs m l) (hsh : Formula.Shapes l) : FoldGood l m cs m' := by
  -- the induction is over any accumulator
  suffices ∀ (l acc : List Formula) (fr : Nat) (cs : List Formula) (fr' : Nat),
      l.foldlM (foldStep D) (acc, fr) = .ok (cs, fr') → 0 < fr → (∀ e ∈ l, e.WF fr) →
      (∀ e ∈ l, e.Shape) → ∃ gs, cs = acc ++ gs ∧ FoldGood l fr gs fr' by
    obtain ⟨gs, rfl, FG⟩ := this l [] m cs m' h hm ((WFs_iff _ _).1 hwf) ((Shapes_iff _).1 hsh)
    exact FG
  intro l
  induction l with
  | nil =>
    intro acc fr cs fr' h hfr _ _
    cases h
    exact ⟨[], (List.append_nil _).symm, Nat.le_refl _, nofun, nofun, fun _ => nofun, fun _ _ => nofun,
      fun _ ⟨_, h, _⟩ => (nomatch h), fun σ => ⟨σ, .refl _ _, rfl⟩⟩
  | cons e es ih =>
    intro acc fr cs fr' h hfr hwf hsh
    rw [List.foldlM_cons] at h
    cases hd : D e fr with
    | error x => simp [foldStep, hd, bind, Except.bind] at h
    | ok p =>
      obtain ⟨g, fr1⟩ := p
      simp only [foldStep, hd, bind, Except.bind] at h
      obtain ⟨hwe, hwes⟩ := List.forall_mem_cons.1 hwf
      obtain ⟨hse, hses⟩ := List.forall_mem_cons.1 hsh
      obtain ⟨⟨le1, snd, cmp⟩, gwf, gsh, gor⟩ := hD (acc, fr) e g fr1 hd hfr hwe hse
      obtain ⟨gs, rfl, FG⟩ := ih (acc ++ [g]) fr1 cs fr' h (Nat.lt_of_lt_of_le hfr le1)
        (fun e he => WF_mono le1 e (hwes e he)) hses
      refine ⟨g :: gs, List.append_assoc .., ?_⟩
      exact {
        le := Nat.le_trans le1 FG.le
        wf := List.forall_mem_cons.2 ⟨WF_mono FG.le g gwf, FG.wf⟩
        shape := List.forall_mem_cons.2 ⟨gsh, FG.shape⟩
        notOr := fun hno =>
          have h := List.forall_mem_cons.1 hno
          List.forall_mem_cons.2 ⟨gor h.1, FG.notOr h.2⟩
        soundAll := fun τ hall =>
          have h := List.forall_mem_cons.1 hall
          List.forall_mem_cons.2 ⟨snd τ h.1, FG.soundAll τ h.2⟩
        soundAny := fun τ ⟨x, hx, hxe⟩ =>
          (List.mem_cons.1 hx).elim (fun h => ⟨e, List.mem_cons_self, snd τ (h ▸ hxe)⟩) fun hx =>
            have ⟨y, hy, hye⟩ := FG.soundAny τ ⟨x, hx, hxe⟩
            ⟨y, List.mem_cons_of_mem _ hy, hye⟩
        -- extend for `e` first, then for the rest: neither step is seen by what came before
        compl := fun σ => by
          obtain ⟨τ1, ag1, hg1⟩ := cmp σ
          obtain ⟨τ2, ag2, hg2⟩ := FG.compl τ1
          refine ⟨τ2, ag1.trans (ag2.mono le1), ?_⟩
          rw [List.map_cons, List.map_cons, hg2, ← eval_congr ag2 g gwf, hg1]
          exact congrArg _ (List.map_congr_left fun x hx => (eval_congr ag1 x (hwes x hx)).symm) }

theorem FoldGood.and {l gs : List Formula} {m m' : Nat} (FG : FoldGood l m gs m') :
    Good (.and l) m (buildAnd gs) m' := by
  refine ⟨⟨FG.le, fun τ hg => ?_, fun σ => ?_⟩, WF_buildAnd _ _ FG.wf, Shape_buildAnd _ FG.shape,
    fun _ => rfl⟩
  · rw [eval_buildAnd, List.all_eq_true] at hg
    exact (eval_and_iff τ l).2 (FG.soundAll τ hg)
  · obtain ⟨τ, ag, hτ⟩ := FG.compl σ
    exact ⟨τ, ag, by rw [eval_buildAnd, eval_and, List.all_of_map_eq hτ]⟩

theorem FoldGood.or {l gs : List Formula} {m m' : Nat} (FG : FoldGood l m gs m') :
    Sem (.or l) m (.or (sortFormulas gs)) m' := by
  refine ⟨FG.le, fun τ hg => ?_, fun σ => ?_⟩
  · simp only [eval_or, List.any_eq_true, mem_sortFormulas] at hg ⊢
    exact FG.soundAny τ hg
  · obtain ⟨τ, ag, hτ⟩ := FG.compl σ
    exact ⟨τ, ag, by rw [eval_or, eval_or, (sortFormulas_perm gs).any_eq, List.any_of_map_eq hτ]⟩

theorem FoldGood.sorted {l gs : List Formula} {m m' : Nat} (FG : FoldGood l m gs m')
    (hno : ∀ e ∈ l, e.isOr = false) : ∀ x ∈ sortFormulas gs, x.WF m' ∧ x.Shape ∧ x.isOr = false := fun x hx =>
  have hx := (mem_sortFormulas x gs).1 hx
  ⟨FG.wf x hx, FG.shape x hx, FG.notOr hno x hx⟩

theorem distSwitch_good : ∀ (fuel : Nat) (f : Formula) (m : Nat) (g : Formula) (m' : Nat),
    distSwitch fuel f m = .ok (g, m') → 0 < m → f.WF m → f.Shape → Good f m g m' := by
  intro fuel f m
  fun_induction distSwitch fuel f m with
  | case1 | case4 | case5 | case7 => intro _ _ h; cases h  -- no fuel, `not` of a compound, a child failed
  | case2 | case3 | case8 | case10 | case13 | case14 =>  -- returned as it is
    exact fun g m' h _ hwf hsh => .of_ok h hwf hsh
  | case6 fuel m l cs fr hfold ih =>  -- `and`
    rintro _ _ ⟨⟩ hm hwf hsh
    exact (fold_spec ih hfold hm hwf hsh).and
  | case9 fuel m l cs fr hfold c hs ih =>  -- `or`, the sorted children are `[c]`
    rintro _ _ ⟨⟩ hm hwf hsh
    have FG := fold_spec ih hfold hm hwf hsh.1
    obtain ⟨cw, cs, _⟩ := FG.sorted hsh.2 c (hs ▸ List.mem_singleton.2 rfl)
    exact ⟨(hs ▸ FG.or).trans (Sem.of_eq _ fun τ => (Bool.or_false _).symm), cw, cs, nofun⟩
  | case11 fuel m l cs fr hfold c0 c1 rest hs _ _ ih ihg =>  -- `or`, an atom among `c0`, `c1`: distribution
    intro g m' h hm hwf hsh
    have FG := fold_spec ih hfold hm hwf hsh.1
    have G := naiveCombination_good (hs ▸ FG.sorted hsh.2)
    exact .of_sem ((hs ▸ FG.or).trans G.sem) (ihg _ _ h (Nat.lt_of_lt_of_le hm FG.le) G.wf G.shape) nofun
  | case12 fuel m l cs fr hfold c0 c1 rest hs _ _ _ _ hsw ih ihg =>  -- `or`, no atom: switching variable
    intro g m' h hm hwf hsh
    obtain ⟨rfl, rfl⟩ := Prod.mk.inj ((switchingCombination_eq ..).symm.trans hsw)
    have FG := fold_spec ih hfold hm hwf hsh.1
    have G := switchingCombination_good (Nat.lt_of_lt_of_le hm FG.le) (hs ▸ FG.sorted hsh.2)
    exact .of_sem ((hs ▸ FG.or).trans G.sem) (ihg _ _ h (Nat.succ_pos fr) G.wf G.shape) nofun

theorem toCnfSwitching_sem (fuel : Nat) (f g : Formula) (n n' : Nat) (hn : 0 < n) (hf : f.WF n)
    (h : toCnfSwitching fuel f n = .ok (g, n')) : Sem f n g n' ∧ g.WF n' := by
  have key : ∃ g0, distSwitch fuel (demorgan false (elimIff f)) n = .ok (g0, n') ∧
      (∀ τ, g.eval τ = g0.eval τ) ∧ (g0.WF n' → g.WF n') := by
    revert h
    fun_cases toCnfSwitching fuel f n with
    | case1 => intro h; cases h
    | case2 l k heq => rintro ⟨⟩; exact ⟨_, heq, fun _ => rfl, fun h => h⟩
    | case3 g0 k _ heq => rintro ⟨⟩; exact ⟨g0, heq, fun τ => Bool.and_true _, fun h => ⟨h, trivial⟩⟩
  obtain ⟨g0, h0, hev, hwf⟩ := key
  have G := distSwitch_good fuel _ n g0 n' h0 hn (WF_nnf n f hf) (Shape_nnf f)
  exact ⟨((Sem.of_eq n (eval_nnf · f)).trans G.sem).trans (Sem.of_eq n' hev), hwf G.wf⟩

end SPModel.Switch
