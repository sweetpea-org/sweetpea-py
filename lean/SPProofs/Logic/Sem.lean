/-
  Semantic vocabulary for the model of `logic.py` (`SPModel.Logic`).
  Definitions only.
-/
import SPModel.Logic

namespace SPModel

mutual
/-- Every literal of the formula is non-zero and names a variable `< n`. -/
def Formula.WF (n : Nat) : Formula → Prop
  | .lit i => i ≠ 0 ∧ i.natAbs < n
  | .and l => Formula.WFs n l
  | .or l => Formula.WFs n l
  | .not f => Formula.WF n f
  | .imp p q => Formula.WF n p ∧ Formula.WF n q
  | .iff p q => Formula.WF n p ∧ Formula.WF n q
def Formula.WFs (n : Nat) : List Formula → Prop
  | [] => True
  | f :: fs => Formula.WF n f ∧ Formula.WFs n fs
end

mutual
/-- The variables (absolute values of literals) of a formula. -/
def Formula.vars : Formula → List Nat
  | .lit i => [i.natAbs]
  | .and l => Formula.varsList l
  | .or l => Formula.varsList l
  | .not f => Formula.vars f
  | .imp p q => Formula.vars p ++ Formula.vars q
  | .iff p q => Formula.vars p ++ Formula.vars q
def Formula.varsList : List Formula → List Nat
  | [] => []
  | f :: fs => Formula.vars f ++ Formula.varsList fs
end

mutual
/-- No `imp`/`iff` node anywhere (what `elimIff` establishes). -/
def Formula.NoImp : Formula → Prop
  | .lit _ => True
  | .and l => Formula.NoImps l
  | .or l => Formula.NoImps l
  | .not f => Formula.NoImp f
  | .imp _ _ => False
  | .iff _ _ => False
def Formula.NoImps : List Formula → Prop
  | [] => True
  | f :: fs => Formula.NoImp f ∧ Formula.NoImps fs
end

def Formula.isLit : Formula → Bool
  | .lit _ => true
  | _ => false

def Formula.isOr : Formula → Bool
  | .or _ => true
  | _ => false

mutual
/-- Negation normal form as `demorgan` produces it: literals, negated
    literals, `and`, `or`; and no `or` directly below an `or`. -/
def Formula.Shape : Formula → Prop
  | .lit _ => True
  | .and l => Formula.Shapes l
  | .or l => Formula.Shapes l ∧ ∀ g ∈ l, g.isOr = false
  | .not f => f.isLit = true
  | .imp _ _ => False
  | .iff _ _ => False
def Formula.Shapes : List Formula → Prop
  | [] => True
  | f :: fs => Formula.Shape f ∧ Formula.Shapes fs
end

end SPModel
