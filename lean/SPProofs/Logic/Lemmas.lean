/-
  The mutual recursions over `Formula` come with a list companion each (`evalAll`, `WFs`, `varsList`, `elimIffs`, …).
  Here the companions are restated through `all`/`any`/`map`/membership, `eval` gets its equations, and
  `Formula.induct` is induction with a hypothesis for every member of a child list.  `WF` and `eval` depend on a
  formula only through `vars` (`WF_iff_vars`, `eval_congr_vars`).
-/
import SPProofs.Logic.Sem
import SPProofs.Basic.Lits

namespace SPModel
open Formula

theorem evalAll_eq_all (τ : Assign) (l : List Formula) : evalAll τ l = l.all (eval τ) := by
  induction l with
  | nil => rfl
  | cons f fs ih => simp [evalAll, ih]

theorem evalAny_eq_any (τ : Assign) (l : List Formula) : evalAny τ l = l.any (eval τ) := by
  induction l with
  | nil => rfl
  | cons f fs ih => simp [evalAny, ih]

theorem eval_and (τ : Assign) (l : List Formula) : (Formula.and l).eval τ = l.all (eval τ) :=
  evalAll_eq_all τ l

theorem eval_or (τ : Assign) (l : List Formula) : (Formula.or l).eval τ = l.any (eval τ) :=
  evalAny_eq_any τ l

theorem eval_and_iff (τ : Assign) (l : List Formula) :
    (Formula.and l).eval τ = true ↔ ∀ g ∈ l, g.eval τ = true := by
  rw [eval_and, List.all_eq_true]

/- protected: the pipeline has a `lit` of its own and opens a lemma of this name about it -/
protected theorem eval_lit (τ : Assign) (i : Int) : (Formula.lit i).eval τ = litVal τ i := rfl

theorem eval_not (τ : Assign) (f : Formula) : (Formula.not f).eval τ = !f.eval τ := rfl

theorem eval_imp (τ : Assign) (p q : Formula) :
    (Formula.imp p q).eval τ = true ↔ (p.eval τ = true → q.eval τ = true) := by
  show (!p.eval τ || q.eval τ) = true ↔ _
  cases p.eval τ <;> simp

theorem eval_iff (τ : Assign) (p q : Formula) :
    (Formula.iff p q).eval τ = true ↔ p.eval τ = q.eval τ :=
  beq_iff_eq

theorem WFs_iff (n : Nat) (l : List Formula) : Formula.WFs n l ↔ ∀ g ∈ l, g.WF n := by
  induction l with
  | nil => exact ⟨fun _ => nofun, fun _ => trivial⟩
  | cons f fs ih => exact (and_congr_right' ih).trans List.forall_mem_cons.symm

theorem NoImps_iff (l : List Formula) : Formula.NoImps l ↔ ∀ g ∈ l, g.NoImp := by
  induction l with
  | nil => exact ⟨fun _ => nofun, fun _ => trivial⟩
  | cons f fs ih => exact (and_congr_right' ih).trans List.forall_mem_cons.symm

theorem Shapes_iff (l : List Formula) : Formula.Shapes l ↔ ∀ g ∈ l, g.Shape := by
  induction l with
  | nil => exact ⟨fun _ => nofun, fun _ => trivial⟩
  | cons f fs ih => exact (and_congr_right' ih).trans List.forall_mem_cons.symm

theorem mem_varsList (v : Nat) (l : List Formula) :
    v ∈ Formula.varsList l ↔ ∃ g ∈ l, v ∈ g.vars := by
  induction l with
  | nil => simp [Formula.varsList]
  | cons f fs ih => simp [Formula.varsList, ih]

theorem forall_mem_varsList {Q : Nat → Prop} (l : List Formula) :
    (∀ v ∈ Formula.varsList l, Q v) ↔ ∀ g ∈ l, ∀ v ∈ g.vars, Q v := by
  simp only [mem_varsList]
  exact ⟨fun h g hg v hv => h v ⟨g, hg, hv⟩, fun h v ⟨g, hg, hv⟩ => h g hg v hv⟩

theorem elimIffs_eq_map (l : List Formula) : elimIffs l = l.map elimIff := by
  induction l with
  | nil => rfl
  | cons f fs ih => rw [elimIffs, ih, List.map_cons]

theorem demorgans_snd (b : Bool) (l : List Formula) : (demorgans b l).map (·.2) = l.map (demorgan b) := by
  induction l with
  | nil => rfl
  | cons f fs ih => exact congrArg (demorgan b f :: ·) ih

theorem distNaives_eq_map (l : List Formula) : distNaives l = l.map distNaive := by
  induction l with
  | nil => rfl
  | cons f fs ih => rw [distNaives, ih, List.map_cons]

/-- The children of `and`/`or` come by membership: no companion statement about lists is needed. -/
@[induction_eliminator]
theorem Formula.induct {P : Formula → Prop} (lit : ∀ i, P (.lit i))
    (and : ∀ l, (∀ g ∈ l, P g) → P (.and l)) (or : ∀ l, (∀ g ∈ l, P g) → P (.or l))
    (not : ∀ f, P f → P (.not f)) (imp : ∀ p q, P p → P q → P (.imp p q))
    (iff : ∀ p q, P p → P q → P (.iff p q)) (f : Formula) : P f :=
  Formula.rec (motive_1 := P) (motive_2 := fun l => ∀ g ∈ l, P g) lit and or not imp iff
    (fun _ h => nomatch h)
    (fun _ _ hf hfs _ hg => by cases hg with | head => exact hf | tail _ h => exact hfs _ h) f

theorem eval_congr_vars {σ τ : Assign} (f : Formula) (h : ∀ v ∈ f.vars, σ v = τ v) :
    f.eval σ = f.eval τ := by
  induction f with
  | lit i => exact litVal_congr_on (h _ (List.mem_singleton.2 rfl))
  | and l ih =>
    rw [eval_and, eval_and]
    exact List.all_congr_mem fun g hg => ih g hg ((forall_mem_varsList l).1 h g hg)
  | or l ih =>
    rw [eval_or, eval_or]
    exact List.any_congr_mem fun g hg => ih g hg ((forall_mem_varsList l).1 h g hg)
  | not f ih => exact congrArg (! ·) (ih h)
  | imp p q ihp ihq =>
    have h := List.forall_mem_append.1 h
    rw [eval, eval, ihp h.1, ihq h.2]
  | iff p q ihp ihq =>
    have h := List.forall_mem_append.1 h
    rw [eval, eval, ihp h.1, ihq h.2]

theorem WF_iff_vars (n : Nat) (f : Formula) : f.WF n ↔ ∀ v ∈ f.vars, 0 < v ∧ v < n := by
  induction f with
  | lit i => simp [Formula.WF, Formula.vars]
  | and l ih => exact (WFs_iff n l).trans ((forall₂_congr ih).trans (forall_mem_varsList l).symm)
  | or l ih => exact (WFs_iff n l).trans ((forall₂_congr ih).trans (forall_mem_varsList l).symm)
  | not f ih => exact ih
  | imp p q ihp ihq => exact (and_congr ihp ihq).trans List.forall_mem_append.symm
  | iff p q ihp ihq => exact (and_congr ihp ihq).trans List.forall_mem_append.symm

theorem WF_of_vars {n : Nat} {f g : Formula} (h : ∀ v ∈ g.vars, v ∈ f.vars) (hf : f.WF n) : g.WF n :=
  (WF_iff_vars n g).2 fun v hv => (WF_iff_vars n f).1 hf v (h v hv)

theorem WF_mono {m m' : Nat} (h : m ≤ m') (f : Formula) (hf : f.WF m) : f.WF m' :=
  (WF_iff_vars m' f).2 fun v hv => ⟨((WF_iff_vars m f).1 hf v hv).1,
    Nat.lt_of_lt_of_le ((WF_iff_vars m f).1 hf v hv).2 h⟩

theorem eval_congr {n : Nat} {σ τ : Assign} (h : AgreeBelow n σ τ) (f : Formula) (hf : f.WF n) :
    f.eval σ = f.eval τ :=
  eval_congr_vars f fun v hv => h v ((WF_iff_vars n f).1 hf v hv).1 ((WF_iff_vars n f).1 hf v hv).2

end SPModel
