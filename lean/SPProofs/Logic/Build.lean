/-
  What the naive and the switching conversion share: stable sort, flatten, `buildAnd`/`buildOr`,
  `listForCrossing`, and the negation normal form `demorgan false ∘ elimIff`.  Of each rebuilt formula three
  things are observed: its value, its variables (hence `WF`), its `Shape`.
-/
import SPProofs.Logic.Lemmas

namespace SPModel
open Formula

theorem insertByKey_perm (x : Int × Formula) (l : List (Int × Formula)) :
    (insertByKey x l).Perm (x :: l) := by
  fun_induction insertByKey x l with
  | case1 => exact .refl _
  | case2 y ys _ => exact .refl _
  | case3 y ys _ ih => exact (List.Perm.cons y ih).trans (List.Perm.swap x y ys)

theorem sortByKey_perm (l : List (Int × Formula)) : (sortByKey l).Perm l := by
  induction l with
  | nil => exact .nil
  | cons x xs ih => exact (insertByKey_perm x _).trans (List.Perm.cons x ih)

theorem sortByKey_snd_perm (l : List (Int × Formula)) :
    ((sortByKey l).map (·.2)).Perm (l.map (·.2)) := (sortByKey_perm l).map _

theorem sortFormulas_perm (l : List Formula) : (sortFormulas l).Perm l := by
  simpa [sortFormulas, Function.comp_def] using sortByKey_snd_perm (l.map fun f => (orderKey f, f))

theorem mem_sortFormulas (g : Formula) (l : List Formula) : g ∈ sortFormulas l ↔ g ∈ l :=
  (sortFormulas_perm l).mem_iff

theorem varsList_append (l r : List Formula) :
    Formula.varsList (l ++ r) = Formula.varsList l ++ Formula.varsList r := by
  induction l with
  | nil => simp [Formula.varsList]
  | cons f fs ih => simp [Formula.varsList, ih]

theorem varsList_perm {l r : List Formula} (h : l.Perm r) (v : Nat) :
    v ∈ Formula.varsList l ↔ v ∈ Formula.varsList r := by
  simp only [mem_varsList, h.mem_iff]

theorem varsList_map {φ : Formula → Formula} {l : List Formula}
    (h : ∀ g ∈ l, ∀ v ∈ (φ g).vars, v ∈ g.vars) : ∀ v ∈ Formula.varsList (l.map φ), v ∈ Formula.varsList l := by
  simp only [mem_varsList, List.mem_map]
  rintro v ⟨_, ⟨g, hg, rfl⟩, hv⟩
  exact ⟨g, hg, h g hg v hv⟩

theorem Shapes_append (l r : List Formula) :
    Formula.Shapes (l ++ r) ↔ Formula.Shapes l ∧ Formula.Shapes r := by
  simp only [Shapes_iff, List.mem_append, or_imp, forall_and]

theorem all_flattenAnd (τ : Assign) (l : List Formula) :
    (flattenAnd l).all (eval τ) = l.all (eval τ) := by
  fun_induction flattenAnd l with
  | case1 => rfl
  | case2 l rest ih => rw [List.all_append, ih, List.all_cons, eval_and]
  | case3 f rest _ ih => rw [List.all_cons, ih, List.all_cons]

theorem any_flattenOr (τ : Assign) (l : List Formula) :
    (flattenOr l).any (eval τ) = l.any (eval τ) := by
  fun_induction flattenOr l with
  | case1 => rfl
  | case2 l rest ih => rw [List.any_append, ih, List.any_cons, eval_or]
  | case3 f rest _ ih => rw [List.any_cons, ih, List.any_cons]

theorem varsList_flattenAnd (l : List Formula) :
    Formula.varsList (flattenAnd l) = Formula.varsList l := by
  fun_induction flattenAnd l with
  | case1 => rfl
  | case2 l rest ih => rw [varsList_append, ih, Formula.varsList, Formula.vars]
  | case3 f rest _ ih => exact congrArg (f.vars ++ ·) ih

theorem varsList_flattenOr (l : List Formula) :
    Formula.varsList (flattenOr l) = Formula.varsList l := by
  fun_induction flattenOr l with
  | case1 => rfl
  | case2 l rest ih => rw [varsList_append, ih, Formula.varsList, Formula.vars]
  | case3 f rest _ ih => exact congrArg (f.vars ++ ·) ih

theorem Shapes_flattenAnd (l : List Formula) (h : Formula.Shapes l) : Formula.Shapes (flattenAnd l) := by
  fun_induction flattenAnd l with
  | case1 => trivial
  | case2 l rest ih => exact (Shapes_append _ _).2 ⟨h.1, ih h.2⟩
  | case3 f rest _ ih => exact ⟨h.1, ih h.2⟩

theorem isOr_eq_false_iff (g : Formula) : g.isOr = false ↔ ∀ l', g ≠ .or l' := by
  cases g <;> simp [Formula.isOr]

/-- No `or` is left among the flattened children because a well-shaped inner `or` has none. -/
theorem Shapes_flattenOr (l : List Formula) (h : Formula.Shapes l) :
    Formula.Shapes (flattenOr l) ∧ ∀ g ∈ flattenOr l, g.isOr = false := by
  fun_induction flattenOr l with
  | case1 => exact ⟨trivial, nofun⟩
  | case2 l rest ih =>
    obtain ⟨⟨hl, hno⟩, hr⟩ := h
    refine ⟨(Shapes_append _ _).2 ⟨hl, (ih hr).1⟩, fun g hg => ?_⟩
    exact (List.mem_append.1 hg).elim (hno g) ((ih hr).2 g)
  | case3 f rest hf ih =>
    refine ⟨⟨h.1, (ih h.2).1⟩, fun g hg => ?_⟩
    rcases List.mem_cons.1 hg with rfl | hg
    · exact (isOr_eq_false_iff _).2 hf
    · exact (ih h.2).2 g hg

theorem eval_buildAnd (τ : Assign) (l : List Formula) : (buildAnd l).eval τ = l.all (eval τ) := by
  rw [buildAnd, eval_and, (sortFormulas_perm _).all_eq, all_flattenAnd]

theorem eval_buildOr (τ : Assign) (l : List Formula) : (buildOr l).eval τ = l.any (eval τ) := by
  rw [buildOr, eval_or, (sortFormulas_perm _).any_eq, any_flattenOr]

theorem vars_buildAnd (l : List Formula) (v : Nat) : v ∈ (buildAnd l).vars ↔ v ∈ Formula.varsList l := by
  rw [buildAnd, Formula.vars, varsList_perm (sortFormulas_perm _), varsList_flattenAnd]

theorem vars_buildOr (l : List Formula) (v : Nat) : v ∈ (buildOr l).vars ↔ v ∈ Formula.varsList l := by
  rw [buildOr, Formula.vars, varsList_perm (sortFormulas_perm _), varsList_flattenOr]

theorem Shape_buildAnd (l : List Formula) (h : ∀ g ∈ l, g.Shape) : (buildAnd l).Shape := by
  have := Shapes_flattenAnd l ((Shapes_iff l).2 h)
  simpa only [buildAnd, Formula.Shape, Shapes_iff, mem_sortFormulas] using this

theorem Shape_buildOr (l : List Formula) (h : ∀ g ∈ l, g.Shape) : (buildOr l).Shape := by
  have := Shapes_flattenOr l ((Shapes_iff l).2 h)
  simpa only [buildOr, Formula.Shape, Shapes_iff, mem_sortFormulas] using this

theorem WF_buildAnd (n : Nat) (l : List Formula) (h : ∀ g ∈ l, g.WF n) : (buildAnd l).WF n :=
  WF_of_vars (f := .and l) (fun v => (vars_buildAnd l v).1) ((WFs_iff n l).2 h)

theorem WF_buildOr (n : Nat) (l : List Formula) (h : ∀ g ∈ l, g.WF n) : (buildOr l).WF n :=
  WF_of_vars (f := .or l) (fun v => (vars_buildOr l v).1) ((WFs_iff n l).2 h)

theorem all_listForCrossing (τ : Assign) (g : Formula) (h : g.isOr = false) :
    (listForCrossing g).all (eval τ) = g.eval τ := by
  cases g with
  | or l => exact nomatch h
  | and l => exact (eval_and τ l).symm
  | _ => simp [listForCrossing]

theorem vars_listForCrossing (g x : Formula) (hx : x ∈ listForCrossing g) :
    ∀ v ∈ x.vars, v ∈ g.vars := by
  intro v hv
  cases g with
  | and l => exact (mem_varsList v l).2 ⟨x, hx, hv⟩
  | or l => exact (mem_varsList v l).2 ⟨x, hx, hv⟩
  | _ => exact List.mem_singleton.1 hx ▸ hv

theorem Shape_listForCrossing (g x : Formula) (hx : x ∈ listForCrossing g) (h : g.Shape) : x.Shape := by
  cases g with
  | and l => exact (Shapes_iff l).1 h x hx
  | or l => exact (Shapes_iff l).1 h.1 x hx
  | _ => exact List.mem_singleton.1 hx ▸ h

theorem eval_elimIff (τ : Assign) (f : Formula) : (elimIff f).eval τ = f.eval τ := by
  induction f with
  | lit i => rfl
  | and l ih => rw [elimIff, elimIffs_eq_map, eval_and, eval_and, List.all_map]; exact List.all_congr_mem ih
  | or l ih => rw [elimIff, elimIffs_eq_map, eval_or, eval_or, List.any_map]; exact List.any_congr_mem ih
  | not f ih => exact congrArg (! ·) ih
  | imp p q ihp ihq => simp [elimIff, eval, evalAny, ihp, ihq]
  | iff p q ihp ihq =>
    simp only [elimIff, eval, evalAll, evalAny, ihp, ihq]
    cases eval τ p <;> cases eval τ q <;> rfl

theorem vars_elimIff (f : Formula) : ∀ v ∈ (elimIff f).vars, v ∈ f.vars := by
  induction f with
  | lit i => exact fun v h => h
  | and l ih => rw [elimIff, elimIffs_eq_map]; exact varsList_map ih
  | or l ih => rw [elimIff, elimIffs_eq_map]; exact varsList_map ih
  | not f ih => exact ih
  | imp p q ihp ihq =>
    intro v h
    simp only [elimIff, Formula.vars, Formula.varsList, List.append_nil, List.mem_append] at h ⊢
    exact h.imp (ihp v) (ihq v)
  | iff p q ihp ihq =>
    intro v h
    simp only [elimIff, Formula.vars, Formula.varsList, List.append_nil, List.mem_append, or_self] at h ⊢
    exact h.imp (ihp v) (ihq v)

theorem NoImp_elimIff (f : Formula) : (elimIff f).NoImp := by
  induction f with
  | lit i => trivial
  | and l ih => rw [elimIff, elimIffs_eq_map]; exact (NoImps_iff _).2 (List.forall_mem_map.2 ih)
  | or l ih => rw [elimIff, elimIffs_eq_map]; exact (NoImps_iff _).2 (List.forall_mem_map.2 ih)
  | not f ih => exact ih
  | imp p q ihp ihq => exact ⟨ihp, ihq, trivial⟩
  | iff p q ihp ihq => exact ⟨⟨ihp, ihq, trivial⟩, ⟨ihp, ihq, trivial⟩, trivial⟩

theorem demorgan_not (b : Bool) (f : Formula) : demorgan b (.not f) = demorgan (!b) f := by
  cases b <;> rfl

theorem eval_demorgan (τ : Assign) (b : Bool) (f : Formula) (h : f.NoImp) :
    (demorgan b f).eval τ = (b ^^ f.eval τ) := by
  induction f generalizing b with
  | lit i =>
    cases b
    · exact (Bool.false_xor _).symm
    · exact (Bool.true_xor _).symm
  | and l ih =>
    have h := (NoImps_iff l).1 h
    cases b
    · refine (eval_buildAnd τ _).trans ?_
      rw [demorgans_snd, List.all_map, eval_and, Bool.false_xor]
      exact List.all_congr_mem fun g hg => (ih g hg false (h g hg)).trans (Bool.false_xor _)
    · -- De Morgan, `!(l.all p) = l.any (!p ·)`; the sort in between only permutes
      refine (eval_buildOr τ _).trans ?_
      rw [(sortByKey_snd_perm _).any_eq, demorgans_snd, List.any_map, eval_and, Bool.true_xor,
        List.not_all_eq_any_not]
      exact List.any_congr_mem fun g hg => (ih g hg true (h g hg)).trans (Bool.true_xor _)
  | or l ih =>
    have h := (NoImps_iff l).1 h
    cases b
    · refine (eval_buildOr τ _).trans ?_
      rw [demorgans_snd, List.any_map, eval_or, Bool.false_xor]
      exact List.any_congr_mem fun g hg => (ih g hg false (h g hg)).trans (Bool.false_xor _)
    · refine (eval_buildAnd τ _).trans ?_
      rw [(sortByKey_snd_perm _).all_eq, demorgans_snd, List.all_map, eval_or, Bool.true_xor,
        List.not_any_eq_all_not]
      exact List.all_congr_mem fun g hg => (ih g hg true (h g hg)).trans (Bool.true_xor _)
  | not f ih =>
    rw [demorgan_not, ih _ h, eval_not]
    cases b <;> cases eval τ f <;> rfl
  | imp p q => exact h.elim
  | iff p q => exact h.elim

theorem demorgan_children {b : Bool} {l : List Formula} {P : Formula → Prop}
    (h : ∀ g ∈ l, P (demorgan b g)) :
    (∀ g ∈ (demorgans b l).map (·.2), P g) ∧ ∀ g ∈ (sortByKey (demorgans b l)).map (·.2), P g := by
  have : ∀ g ∈ (demorgans b l).map (·.2), P g := by
    rw [demorgans_snd]; exact List.forall_mem_map.2 h
  exact ⟨this, fun g hg => this g ((sortByKey_snd_perm _).mem_iff.1 hg)⟩

theorem Shape_demorgan (b : Bool) (f : Formula) (h : f.NoImp) : (demorgan b f).Shape := by
  induction f generalizing b with
  | lit i =>
    cases b
    · trivial
    · exact rfl
  | and l ih =>
    have h := (NoImps_iff l).1 h
    have := demorgan_children (P := Formula.Shape) fun g hg => ih g hg b (h g hg)
    cases b
    · exact Shape_buildAnd _ this.1
    · exact Shape_buildOr _ this.2
  | or l ih =>
    have h := (NoImps_iff l).1 h
    have := demorgan_children (P := Formula.Shape) fun g hg => ih g hg b (h g hg)
    cases b
    · exact Shape_buildOr _ this.1
    · exact Shape_buildAnd _ this.2
  | not f ih => rw [demorgan_not]; exact ih _ h
  | imp p q => exact h.elim
  | iff p q => exact h.elim

theorem vars_demorgan (b : Bool) (f : Formula) : ∀ v ∈ (demorgan b f).vars, v ∈ f.vars := by
  induction f generalizing b with
  | lit i => cases b <;> exact fun v h => h
  | and l ih =>
    have := demorgan_children (P := fun g => ∀ v ∈ g.vars, v ∈ Formula.varsList l)
      fun g hg v h => (mem_varsList v l).2 ⟨g, hg, ih g hg b v h⟩
    cases b
    · exact fun v hv => (forall_mem_varsList _).2 this.1 v ((vars_buildAnd _ v).1 hv)
    · exact fun v hv => (forall_mem_varsList _).2 this.2 v ((vars_buildOr _ v).1 hv)
  | or l ih =>
    have := demorgan_children (P := fun g => ∀ v ∈ g.vars, v ∈ Formula.varsList l)
      fun g hg v h => (mem_varsList v l).2 ⟨g, hg, ih g hg b v h⟩
    cases b
    · exact fun v hv => (forall_mem_varsList _).2 this.1 v ((vars_buildOr _ v).1 hv)
    · exact fun v hv => (forall_mem_varsList _).2 this.2 v ((vars_buildAnd _ v).1 hv)
  | not f ih => rw [demorgan_not]; exact ih _
  | imp p q => cases b <;> exact fun v h => h
  | iff p q => cases b <;> exact fun v h => h

theorem eval_nnf (τ : Assign) (f : Formula) : (demorgan false (elimIff f)).eval τ = f.eval τ := by
  rw [eval_demorgan τ false _ (NoImp_elimIff f), eval_elimIff, Bool.false_xor]

theorem vars_nnf (f : Formula) : ∀ v ∈ (demorgan false (elimIff f)).vars, v ∈ f.vars :=
  fun v h => vars_elimIff f v (vars_demorgan false _ v h)

theorem WF_nnf (n : Nat) (f : Formula) (h : f.WF n) : (demorgan false (elimIff f)).WF n :=
  WF_of_vars (vars_nnf f) h

theorem Shape_nnf (f : Formula) : (demorgan false (elimIff f)).Shape :=
  Shape_demorgan false _ (NoImp_elimIff f)

end SPModel
