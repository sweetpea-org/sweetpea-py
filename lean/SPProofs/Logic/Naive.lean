/-
  The naive conversion `toCnfNaive` preserves the semantics of a formula and
  introduces no variables.
-/
import SPProofs.Logic.Build

namespace SPModel
open Formula

theorem all_product (p : Formula → Bool) (ls : List (List Formula)) :
    (product ls).all (·.any p) = ls.any (·.all p) := by
  induction ls with
  | nil => rfl
  | cons l ls ih =>
    simp only [product, List.all_map, List.all_flatMap, Function.comp_def, List.any_cons,
      List.all_or_left, List.all_or_right, ih]

theorem mem_product (ls : List (List Formula)) :
    ∀ t ∈ product ls, ∀ x ∈ t, ∃ l ∈ ls, x ∈ l := by
  induction ls with
  | nil => intro t ht x hx; simp [product] at ht; subst ht; simp at hx
  | cons l ls ih =>
    intro t ht x hx
    simp only [product, List.mem_flatMap, List.mem_map] at ht
    obtain ⟨y, hy, t', ht', rfl⟩ := ht
    rcases List.mem_cons.1 hx with rfl | hx
    · exact ⟨l, List.mem_cons_self, hy⟩
    · obtain ⟨l', hl', hx'⟩ := ih t' ht' x hx
      exact ⟨l', List.mem_cons_of_mem _ hl', hx'⟩

theorem isOr_distNaive (f : Formula) : (distNaive f).isOr = false := by
  cases f <;> rfl

theorem eval_distNaive (τ : Assign) (f : Formula) : (distNaive f).eval τ = f.eval τ := by
  induction f with
  | and l ih =>
    rw [distNaive, eval_buildAnd, distNaives_eq_map, List.all_map, eval_and]
    exact List.all_congr_mem ih
  | or l ih =>
    -- distribution (`all_product`): every tuple of one conjunct per child has a true member iff some child has
    -- all its conjuncts true
    simp only [distNaive, eval_buildAnd, List.all_map, Function.comp_def, eval_buildOr, all_product,
      distNaives_eq_map, List.map_map, List.any_map, eval_or]
    exact List.any_congr_mem fun g hg => (all_listForCrossing τ _ (isOr_distNaive g)).trans (ih g hg)
  | _ => rfl

theorem vars_distNaive (f : Formula) : ∀ v ∈ (distNaive f).vars, v ∈ f.vars := by
  induction f with
  | and l ih =>
    intro v h
    rw [distNaive, vars_buildAnd, distNaives_eq_map] at h
    exact varsList_map ih v h
  | or l ih =>
    intro v h
    rw [distNaive, vars_buildAnd, distNaives_eq_map, mem_varsList] at h
    obtain ⟨_, hb, hv⟩ := h
    obtain ⟨t, ht, rfl⟩ := List.mem_map.1 hb
    obtain ⟨x, hx, hv⟩ := (mem_varsList v t).1 ((vars_buildOr t v).1 hv)
    obtain ⟨_, hl', hxl⟩ := mem_product _ t ht x hx
    obtain ⟨g', hg', rfl⟩ := List.mem_map.1 hl'
    obtain ⟨g, hg, rfl⟩ := List.mem_map.1 hg'
    exact (mem_varsList v l).2 ⟨g, hg, ih g hg v (vars_listForCrossing _ x hxl v hv)⟩
  | _ => exact fun v h => h

/-- the final `match` of `toCnfNaive` -/
theorem eval_wrapAnd (τ : Assign) (g : Formula) :
    (match g with | .and l => Formula.and l | g => .and [g]).eval τ = g.eval τ := by
  split
  · rfl
  · exact Bool.and_true _

theorem vars_wrapAnd (g : Formula) :
    ∀ v ∈ (match g with | .and l => Formula.and l | g => .and [g]).vars, v ∈ g.vars := by
  split
  · exact fun v h => h
  · exact fun v (h : v ∈ g.vars ++ []) => List.append_nil g.vars ▸ h

end SPModel
