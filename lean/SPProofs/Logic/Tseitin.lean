/-
  The Tseitin conversion (`to_cnf_tseitin`).  A cache miss emits `r ↔ key` (`keyDefs_sat`); the clauses
  emitted so far are a `Defines` (`Inv`), and a later state keeps them (`Ext`); one step is `getOrDefine_spec`,
  the induction `tseitin_spec`; `toCnfTseitin_spec` is what C11 and the pipeline use.  Last, `cnf_to_json` of
  the returned tree yields the integer clauses (`cnfToJson_tseitin`).
-/
import SPProofs.Logic.Lemmas
import SPProofs.Basic.Defs

namespace SPModel
open Formula

namespace Tseitin

/- `litVal`, `clauseSat`, `cnfSat` for clauses of `TLit`s (`TseitinResult.cnfSat_cnf` relates the two) -/
def tlitVal (τ : Assign) (l : TLit) : Bool := if l.neg then !litVal τ l.v else litVal τ l.v
def tclSat (τ : Assign) (c : List TLit) : Bool := c.any (tlitVal τ)
def tclsSat (τ : Assign) (cs : List (List TLit)) : Bool := cs.all (tclSat τ)

def keyVal (τ : Assign) : TKey → Bool
  | .and vs => vs.all (litVal τ)
  | .or vs => vs.any (litVal τ)
  | .not c => !litVal τ c
  | .imp p q => !litVal τ p || litVal τ q
  | .iff p q => litVal τ p == litVal τ q

def keyLits : TKey → List Int
  | .and vs => vs
  | .or vs => vs
  | .not c => [c]
  | .imp p q => [p, q]
  | .iff p q => [p, q]

/-- `n` is the first fresh variable, `m` the counter; `P` becomes "is a variable of the formula". -/
def FLitOK (n : Nat) (P : Nat → Prop) (m : Nat) (v : Int) : Prop :=
  v ≠ 0 ∧ v.natAbs < m ∧ (v.natAbs < n → P v.natAbs)

theorem FLitOK.mono {n P m m' v} (h : FLitOK n P m v) (hm : m ≤ m') : FLitOK n P m' v :=
  ⟨h.1, Nat.lt_of_lt_of_le h.2.1 hm, h.2.2⟩

theorem FLitOK.natCast {n P m v} (hn : 0 < n) (h1 : n ≤ v) (h2 : v < m) : FLitOK n P m (v : Int) :=
  ⟨Int.natCast_ne_zero.2 (Nat.ne_of_gt (Nat.lt_of_lt_of_le hn h1)), h2,
    fun h => absurd h (Nat.not_lt.2 h1)⟩

theorem FLitOK_toInt {n P m} (l : TLit) : FLitOK n P m l.toInt ↔ FLitOK n P m l.v := by
  cases l with | mk neg v => cases neg <;> simp [TLit.toInt, FLitOK]

@[simp] theorem tlitVal_pos (τ : Assign) (v : Int) : tlitVal τ (pos v) = litVal τ v := by
  simp [tlitVal, pos]
@[simp] theorem tlitVal_ngt (τ : Assign) (v : Int) : tlitVal τ (ngt v) = !litVal τ v := by
  simp [tlitVal, ngt]

theorem litVal_toInt (τ : Assign) (l : TLit) (h : l.v ≠ 0) : litVal τ l.toInt = tlitVal τ l := by
  cases l with | mk neg v =>
  cases neg
  · simp [TLit.toInt, tlitVal]
  · simp only [TLit.toInt, tlitVal, if_true]; exact litVal_neg τ v h

theorem keyVal_congr {σ τ : Assign} (k : TKey) (h : ∀ v ∈ keyLits k, litVal σ v = litVal τ v) :
    keyVal σ k = keyVal τ k := by
  cases k with
  | and vs => exact List.all_congr_mem h
  | or vs => exact List.any_congr_mem h
  | not c => exact congrArg (! ·) (h c List.mem_cons_self)
  | imp p q => simp only [keyVal, h p List.mem_cons_self, h q (.tail _ List.mem_cons_self)]
  | iff p q => simp only [keyVal, h p List.mem_cons_self, h q (.tail _ List.mem_cons_self)]

theorem tclsSat_append (τ : Assign) (xs ys : List (List TLit)) :
    tclsSat τ (xs ++ ys) = (tclsSat τ xs && tclsSat τ ys) := by
  simp [tclsSat]

theorem tclsSat_reverse (τ : Assign) (xs : List (List TLit)) :
    tclsSat τ xs.reverse = tclsSat τ xs := by
  simp [tclsSat]

structure Ext (s s' : TState) : Prop where
  next_le : s.next ≤ s'.next
  sat : ∀ τ, tclsSat τ s'.clauses = true → tclsSat τ s.clauses = true

theorem Ext.refl (s : TState) : Ext s s := ⟨Nat.le_refl _, fun _ h => h⟩
theorem Ext.trans {s s' s'' : TState} (h : Ext s s') (h' : Ext s' s'') : Ext s s'' :=
  ⟨Nat.le_trans h.1 h'.1, fun τ ht => h.2 τ (h'.2 τ ht)⟩

theorem getOrDefine_ext (s : TState) (k : TKey) (defs : Int → List (List TLit)) :
    Ext s (s.getOrDefine k defs).2 := by
  unfold TState.getOrDefine
  split
  · exact Ext.refl s
  · exact ⟨Nat.le_succ _, fun τ h => (Bool.and_eq_true_iff.1 (tclsSat_append τ _ _ ▸ h)).2⟩

theorem tseitin_ext :
    (∀ f s, Ext s (tseitinRep f s).2) ∧ (∀ l s, Ext s (tseitinReps l s).2) := by
  apply tseitinRep.mutual_induct_unfolding (fun _ s r => Ext s r.2) (fun _ s r => Ext s r.2)
  · exact fun _ s => .refl s
  · exact fun l s vs s1 heq ih => (heq ▸ ih).trans (getOrDefine_ext ..)
  · exact fun l s vs s1 heq ih => (heq ▸ ih).trans (getOrDefine_ext ..)
  · exact fun p q s a s1 heq1 b s2 heq2 ihp ihq =>
      ((heq1 ▸ ihp).trans (heq2 ▸ ihq)).trans (getOrDefine_ext ..)
  · exact fun p q s a s1 heq1 b s2 heq2 ihp ihq =>
      ((heq1 ▸ ihp).trans (heq2 ▸ ihq)).trans (getOrDefine_ext ..)
  · exact fun f s a s1 heq ih => (heq ▸ ih).trans (getOrDefine_ext ..)
  · exact fun s => .refl s
  · exact fun f fs s v s1 heq1 vs s2 heq2 ihf ihfs =>
      (heq1 ▸ ihf : Ext s (v, s1).2).trans (heq2 ▸ ihfs : Ext s1 (vs, s2).2)

structure Inv (n : Nat) (P : Nat → Prop) (s : TState) : Prop where
  defs : Defines n s.next fun τ => tclsSat τ s.clauses = true
  cache : ∀ k v, (k, v) ∈ s.cache → n ≤ v ∧ v < s.next ∧
    ∀ τ, tclsSat τ s.clauses = true → τ v = keyVal τ k
  lits : ∀ c ∈ s.clauses, ∀ l ∈ c, FLitOK n P s.next l.v

theorem Inv.init (n : Nat) (P : Nat → Prop) : Inv n P { next := n, cache := [], clauses := [] } where
  defs := .nil fun _ => rfl
  cache _ _ h := nomatch h
  lits _ h := nomatch h

theorem lookup_some {s : TState} {k : TKey} {v : Nat} (h : s.lookup k = some v) :
    (k, v) ∈ s.cache := by
  obtain ⟨⟨k', v'⟩, he, rfl⟩ := Option.map_eq_some_iff.1 h
  have hk : (k' == k) = true := List.find?_some (p := fun e : TKey × Nat => e.1 == k) he
  exact beq_iff_eq.1 hk ▸ List.mem_of_find?_eq_some he

/-- The clauses `tseitinRep` emits on a cache miss for key `k` and new variable `r`, in emission order. -/
def keyDefs : TKey → Int → List (List TLit)
  | .and vs, r => (vs.map ngt ++ [pos r]) :: vs.map (fun v => [pos v, ngt r])
  | .or vs, r => (vs.map pos ++ [ngt r]) :: vs.map (fun v => [ngt v, pos r])
  | .not a, r => [[pos a, pos r], [ngt a, ngt r]]
  | .imp a b, r => [[ngt a, pos b, ngt r], [pos a, pos r], [ngt b, pos r]]
  | .iff a b, r =>
    [[pos a, pos b, pos r], [ngt a, ngt b, pos r], [pos a, ngt b, ngt r], [ngt a, pos b, ngt r]]

theorem keyDefs_sat (τ : Assign) (k : TKey) (r : Int) :
    tclsSat τ (keyDefs k r) = (litVal τ r == keyVal τ k) := by
  cases k with
  | and vs =>
    simp only [keyDefs, tclsSat, tclSat, keyVal, List.all_cons, List.any_append, List.any_map,
      List.all_map, Function.comp_def, List.any_cons, List.any_nil, tlitVal_pos, tlitVal_ngt,
      Bool.or_false, List.all_or_right, ← List.not_all_eq_any_not]
    cases litVal τ r <;> cases vs.all (litVal τ) <;> rfl
  | or vs =>
    simp only [keyDefs, tclsSat, tclSat, keyVal, List.all_cons, List.any_append, List.any_map,
      List.all_map, Function.comp_def, List.any_cons, List.any_nil, tlitVal_pos, tlitVal_ngt,
      Bool.or_false, List.all_or_right, ← List.not_any_eq_all_not]
    cases litVal τ r <;> cases vs.any (litVal τ) <;> rfl
  | not a =>
    simp only [keyDefs, tclsSat, tclSat, keyVal, List.all_cons, List.all_nil, List.any_cons,
      List.any_nil, tlitVal_pos, tlitVal_ngt]
    cases litVal τ r <;> cases litVal τ a <;> rfl
  | imp a b | iff a b =>
    simp only [keyDefs, tclsSat, tclSat, keyVal, List.all_cons, List.all_nil, List.any_cons,
      List.any_nil, tlitVal_pos, tlitVal_ngt]
    cases litVal τ r <;> cases litVal τ a <;> cases litVal τ b <;> rfl

theorem keyDefs_lits (k : TKey) (r : Int) :
    ∀ c ∈ keyDefs k r, ∀ l ∈ c, l.v = r ∨ l.v ∈ keyLits k := by
  cases k with
  | and vs | or vs =>
    simp only [keyDefs, keyLits, List.forall_mem_cons, List.forall_mem_append, List.forall_mem_map,
      List.not_mem_nil, false_imp_iff, implies_true, pos, ngt, true_or, and_true]
    exact ⟨fun _ h => .inr h, fun _ h => .inr h⟩
  | _ =>
    simp only [keyDefs, List.forall_mem_cons, List.not_mem_nil, false_imp_iff, implies_true, and_true]
    simp only [keyLits, pos, ngt, List.mem_cons, true_or, or_true, and_self]

/-- After a call that returns `r` in state `s'`: in every model of the clauses `r` has the value `value`. -/
structure Step (n : Nat) (P : Nat → Prop) (value : Assign → Bool) (r : Int) (s' : TState) : Prop where
  inv : Inv n P s'
  lit : FLitOK n P s'.next r
  val : ∀ τ, tclsSat τ s'.clauses = true → litVal τ r = value τ

theorem getOrDefine_spec {n : Nat} {P : Nat → Prop} {s : TState} {k : TKey} {val : Assign → Bool}
    (hn : 0 < n) (hI : Inv n P s) (hk : ∀ v ∈ keyLits k, FLitOK n P s.next v)
    (hv : ∀ τ, tclsSat τ s.clauses = true → keyVal τ k = val τ) :
    Step n P val (s.getOrDefine k (keyDefs k)).1 (s.getOrDefine k (keyDefs k)).2 := by
  unfold TState.getOrDefine
  cases hl : s.lookup k with
  | some v =>
    obtain ⟨h1, h2, h3⟩ := hI.cache k v (lookup_some hl)
    refine ⟨hI, .natCast hn h1 h2, fun τ hτ => ?_⟩
    rw [litVal_natCast τ v (Nat.lt_of_lt_of_le hn h1), h3 τ hτ, hv τ hτ]
  | none =>
    have hle := hI.defs.le
    have hpos : 0 < s.next := Nat.lt_of_lt_of_le hn hle
    -- the new clauses say `s.next = k`, and `k` reads variables below `s.next`
    have hnew : ∀ τ, tclsSat τ ((keyDefs k s.next).reverse ++ s.clauses) = true ↔
        tclsSat τ s.clauses = true ∧ τ s.next = keyVal τ k := fun τ => by
      rw [tclsSat_append, tclsSat_reverse, keyDefs_sat, litVal_natCast τ s.next hpos,
        Bool.and_eq_true, beq_iff_eq, and_comm]
    have hdef := (hI.defs.seq (Defines.var (val := (keyVal · k)) hpos fun h =>
      keyVal_congr k fun v hv => h.litVal_congr (hk v hv).1 (hk v hv).2.1)).congr hnew
    have hr : FLitOK n P (s.next + 1) (s.next : Int) := .natCast hn hle (Nat.lt_succ_self _)
    refine ⟨⟨hdef, ?_, ?_⟩, hr, fun τ hτ => ?_⟩
    · intro k' v hmem
      rcases List.mem_cons.1 hmem with h | hmem
      · obtain ⟨rfl, rfl⟩ := Prod.mk.inj h
        exact ⟨hle, Nat.lt_succ_self _, fun τ hτ => ((hnew τ).1 hτ).2⟩
      · obtain ⟨h1, h2, h3⟩ := hI.cache k' v hmem
        exact ⟨h1, Nat.lt_succ_of_lt h2, fun τ hτ => h3 τ ((hnew τ).1 hτ).1⟩
    · intro c hc l hl
      rcases List.mem_append.1 hc with hc | hc
      · rcases keyDefs_lits k _ c (List.mem_reverse.1 hc) l hl with h | h
        · exact h ▸ hr
        · exact (hk _ h).mono (Nat.le_succ _)
      · exact (hI.lits c hc l hl).mono (Nat.le_succ _)
    · rw [litVal_natCast τ s.next hpos, ((hnew τ).1 hτ).2, hv τ ((hnew τ).1 hτ).1]

def VarsOK (n : Nat) (P : Nat → Prop) (vars : List Nat) : Prop := ∀ v ∈ vars, 0 < v ∧ v < n ∧ P v

/-- `RepSpec`, `RepsSpec`: the motives of `tseitin_spec`; `r` is the result of the call. -/
def RepSpec (n : Nat) (P : Nat → Prop) (f : Formula) (s : TState) (r : Int × TState) : Prop :=
  Inv n P s → VarsOK n P f.vars → Step n P (fun τ => f.eval τ) r.1 r.2

def RepsSpec (n : Nat) (P : Nat → Prop) (l : List Formula) (s : TState) (r : List Int × TState) : Prop :=
  Inv n P s → VarsOK n P (Formula.varsList l) →
    Inv n P r.2 ∧ (∀ v ∈ r.1, FLitOK n P r.2.next v) ∧
    ∀ τ, tclsSat τ r.2.clauses = true → r.1.map (litVal τ) = l.map (eval τ)

theorem tseitin_spec (n : Nat) (P : Nat → Prop) (hn : 0 < n) :
    (∀ f s, RepSpec n P f s (tseitinRep f s)) ∧ (∀ l s, RepsSpec n P l s (tseitinReps l s)) := by
  apply tseitinRep.mutual_induct_unfolding
  · intro i s hI hQ
    have := hQ _ (List.mem_singleton.2 rfl)
    exact ⟨hI, ⟨Int.natAbs_pos.1 this.1, Nat.lt_of_lt_of_le this.2.1 hI.defs.le, fun _ => this.2.2⟩,
      fun _ _ => rfl⟩
  · intro l s vs s1 heq ih hI hQ
    obtain ⟨hI1, hL1, hS1⟩ := heq ▸ ih hI hQ
    exact getOrDefine_spec (k := .and vs) hn hI1 hL1 fun τ hτ =>
      (List.all_of_map_eq (hS1 τ hτ)).trans (eval_and τ l).symm
  · intro l s vs s1 heq ih hI hQ
    obtain ⟨hI1, hL1, hS1⟩ := heq ▸ ih hI hQ
    exact getOrDefine_spec (k := .or vs) hn hI1 hL1 fun τ hτ =>
      (List.any_of_map_eq (hS1 τ hτ)).trans (eval_or τ l).symm
  · -- `.imp p q`: the state after `q` still satisfies what `p` emitted (`Ext`)
    intro p q s a s1 heq1 b s2 heq2 ihp ihq hI hQ
    have hQ := List.forall_mem_append.1 hQ
    have h1 := heq1 ▸ ihp hI hQ.1
    have h2 := heq2 ▸ ihq h1.inv hQ.2
    have e2 : Ext s1 (b, s2).2 := heq2 ▸ tseitin_ext.1 q s1
    exact getOrDefine_spec (k := .imp a b) hn h2.inv
      (List.forall_mem_cons.2 ⟨h1.lit.mono e2.next_le, List.forall_mem_singleton.2 h2.lit⟩)
      fun τ hτ => by rw [keyVal, eval, h2.val τ hτ, h1.val τ (e2.sat τ hτ)]
  · intro p q s a s1 heq1 b s2 heq2 ihp ihq hI hQ
    have hQ := List.forall_mem_append.1 hQ
    have h1 := heq1 ▸ ihp hI hQ.1
    have h2 := heq2 ▸ ihq h1.inv hQ.2
    have e2 : Ext s1 (b, s2).2 := heq2 ▸ tseitin_ext.1 q s1
    exact getOrDefine_spec (k := .iff a b) hn h2.inv
      (List.forall_mem_cons.2 ⟨h1.lit.mono e2.next_le, List.forall_mem_singleton.2 h2.lit⟩)
      fun τ hτ => by rw [keyVal, eval, h2.val τ hτ, h1.val τ (e2.sat τ hτ)]
  · intro f s a s1 heq1 ih hI hQ
    have h1 := heq1 ▸ ih hI hQ
    exact getOrDefine_spec (k := .not a) hn h1.inv (List.forall_mem_singleton.2 h1.lit)
      fun τ hτ => by rw [keyVal, eval, h1.val τ hτ]
  · intro s hI _
    exact ⟨hI, nofun, fun _ _ => rfl⟩
  · intro f fs s v s1 heq1 vs s2 heq2 ihf ihfs hI hQ
    have hQ := List.forall_mem_append.1 hQ
    have h1 := heq1 ▸ ihf hI hQ.1
    obtain ⟨hI2, hL2, hS2⟩ := heq2 ▸ ihfs h1.inv hQ.2
    have e2 : Ext s1 (vs, s2).2 := heq2 ▸ tseitin_ext.2 fs s1
    refine ⟨hI2, ?_, fun τ hτ => ?_⟩
    · exact List.forall_mem_cons.2 ⟨h1.lit.mono e2.next_le, hL2⟩
    · rw [List.map_cons, List.map_cons, hS2 τ hτ, h1.val τ (e2.sat τ hτ)]

end Tseitin
open Tseitin

theorem TseitinResult.cnfSat_cnf (τ : Assign) (t : TseitinResult)
    (h : ∀ c ∈ t.clauses, ∀ l ∈ c, l.v ≠ 0) :
    cnfSat τ t.cnf = (tclsSat τ t.clauses && litVal τ t.root) := by
  simp only [TseitinResult.cnf, cnfSat, clauseSat, List.all_append, List.all_map, List.all_cons,
    List.all_nil, List.any_cons, List.any_nil, Bool.or_false, Bool.and_true, tclsSat,
    Function.comp_def, List.any_map]
  congr 1
  exact List.all_congr_mem fun c hc => List.any_congr_mem fun l hl => litVal_toInt τ l (h c hc l hl)

theorem toCnfTseitin_next_le (f : Formula) (n : Nat) : n ≤ (toCnfTseitin f n).next :=
  (tseitin_ext.1 f { next := n, cache := [], clauses := [] }).next_le

theorem toCnfTseitin_spec (f : Formula) (n : Nat) (hn : 0 < n) (hf : f.WF n) :
    ∃ D, Defines n (toCnfTseitin f n).next D ∧
      (∀ τ, cnfSat τ (toCnfTseitin f n).cnf = true ↔ D τ ∧ f.eval τ = true) ∧
      ∀ c ∈ (toCnfTseitin f n).cnf, ∀ l ∈ c, FLitOK n (· ∈ f.vars) (toCnfTseitin f n).next l := by
  have h := (tseitin_spec n (· ∈ f.vars) hn).1 f { next := n, cache := [], clauses := [] }
    (Inv.init n _) fun v hv => ⟨((WF_iff_vars n f).1 hf v hv).1, ((WF_iff_vars n f).1 hf v hv).2, hv⟩
  refine ⟨_, h.inv.defs, fun τ => ?_, fun c hc l hl => ?_⟩
  · rw [TseitinResult.cnfSat_cnf τ (toCnfTseitin f n) fun c hc l hl => (h.inv.lits c (List.mem_reverse.1 hc) l hl).1,
      toCnfTseitin, tclsSat_reverse, Bool.and_eq_true]
    exact and_congr_right fun hs => by rw [h.val τ hs]
  · rw [toCnfTseitin] at hc
    rcases List.mem_append.1 hc with hc | hc
    · obtain ⟨c', hc', rfl⟩ := List.mem_map.1 hc
      obtain ⟨t, ht, rfl⟩ := List.mem_map.1 hl
      exact (FLitOK_toInt t).2 (h.inv.lits c' (List.mem_reverse.1 hc') t ht)
    · rw [List.mem_singleton.1 hc] at hl
      exact List.mem_singleton.1 hl ▸ h.lit

theorem jsonLit_toFormula (l : TLit) : jsonLit l.toFormula = .ok l.toInt := by
  cases l with | mk neg v => cases neg <;> simp [TLit.toFormula, TLit.toInt, jsonLit]

theorem jsonLits_toFormula (c : List TLit) :
    jsonLits (c.map TLit.toFormula) = .ok (c.map TLit.toInt) := by
  induction c with
  | nil => rfl
  | cons l ls ih => simp [jsonLits, jsonLit_toFormula, ih]

theorem jsonConjuncts_tseitin (cs : List (List TLit)) (r : Int) :
    jsonConjuncts (cs.map (fun c => Formula.or (c.map TLit.toFormula)) ++ [.lit r])
      = .ok (cs.map (fun c => c.map TLit.toInt) ++ [[r]]) := by
  induction cs with
  | nil => rfl
  | cons c cs ih =>
    simp only [List.map_cons, List.cons_append, jsonConjuncts, jsonConjunct, jsonLits_toFormula, ih]

theorem cnfToJson_tseitin (t : TseitinResult) : cnfToJson [t.toFormula] = .ok t.cnf := by
  simp [TseitinResult.toFormula, TseitinResult.cnf, cnfToJson, jsonConjuncts_tseitin]

end SPModel
