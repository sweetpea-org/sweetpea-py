/-
  OPB rows: `OpbRow.holds` compares the left side `OpbRow.lhs` with `rhs` (`holds_iff`); what `lhs` counts for one
  signed term per literal (`opbClause`, `opbBlock`) and for one term `+1` per variable (`opbRequest`).
-/
import SPModel.Text

namespace SPModel.Text

def isum (l : List Int) : Int := l.foldl (· + ·) 0

theorem isum_eq_sum (l : List Int) : isum l = l.sum := List.sum_eq_foldl.symm

@[simp] theorem isum_nil : isum [] = 0 := rfl

@[simp] theorem isum_cons (x : Int) (xs : List Int) : isum (x :: xs) = x + isum xs := by
  rw [isum_eq_sum, isum_eq_sum, List.sum_cons]

def OpbRow.lhs (τ : Assign) (r : OpbRow) : Int :=
  isum (r.terms.map (fun t => if τ t.2 then t.1 else 0))

theorem OpbRow.holds_iff (τ : Assign) (r : OpbRow) : r.holds τ = true ↔
    match r.cmp with
    | .ge => r.rhs ≤ r.lhs τ | .le => r.lhs τ ≤ r.rhs | .eq => r.lhs τ = r.rhs | _ => False := by
  unfold OpbRow.holds OpbRow.lhs isum
  cases r.cmp <;> simp

theorem signed_term (τ : Assign) (l : Int) (hl : l ≠ 0) :
    (if τ l.natAbs then (if l < 0 then (-1 : Int) else 1) else 0) + ((if l < 0 then 1 else 0 : Nat) : Int)
      = ((if litVal τ l then 1 else 0 : Nat) : Int) := by
  unfold litVal
  by_cases hneg : l < 0
  · have hpos : ¬ 0 < l := Int.lt_asymm hneg
    cases τ l.natAbs <;> simp [hneg, hpos]
  · have hpos : 0 < l := Int.lt_iff_le_and_ne.2 ⟨Int.not_lt.1 hneg, hl.symm⟩
    cases τ l.natAbs <;> simp [hneg, hpos]

/-- lhs + #negatives = #satisfied literals -/
theorem isum_signed_terms (τ : Assign) (cl : List Int) (hcl : ∀ l ∈ cl, l ≠ 0) :
    isum ((cl.map (fun l => ((if l < 0 then (-1 : Int) else 1), l.natAbs))).map
        (fun t => if τ t.2 then t.1 else 0))
      + ((cl.filter (· < 0)).length : Int) = ((cl.filter (litVal τ)).length : Int) := by
  simp only [← List.countP_eq_length_filter]
  induction cl with
  | nil => rfl
  | cons l ls ih =>
    simp only [List.map_cons, isum_cons, List.countP_cons, decide_eq_true_eq, Int.natCast_add]
    rw [Int.add_assoc, ← Int.add_assoc (isum _), ih fun x hx => hcl x (List.mem_cons_of_mem _ hx),
      Int.add_left_comm, signed_term τ l (hcl l List.mem_cons_self)]

theorem isum_positive_terms (τ : Assign) (xs : List Int) (hx : ∀ l ∈ xs, 0 < l) :
    isum ((xs.map (fun l => ((1 : Int), l.natAbs))).map (fun t => if τ t.2 then t.1 else 0))
      = ((xs.filter (litVal τ)).length : Int) := by
  have hneg : xs.filter (· < 0) = [] :=
    List.filter_eq_nil_iff.2 fun l hl h => Int.lt_asymm (hx l hl) (of_decide_eq_true h)
  rw [← isum_signed_terms τ xs fun l hl => Int.ne_of_gt (hx l hl), hneg, List.length_nil, Int.natCast_zero,
    Int.add_zero]
  congr 2
  exact List.map_congr_left fun l hl => by rw [if_neg (Int.lt_asymm (hx l hl))]

end SPModel.Text
