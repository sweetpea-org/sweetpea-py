/-
  Print, then parse (`SPModel.Text`): one lemma per kind of line the printers write, then the round trips on
  `unigenLines` with any support list (`parseCnfFile_unigen`, `parsePycrypto_unigen`, `updateFile_unigen`).
-/
import SPModel.Text

namespace List

theorem nodup_eraseDups {α} [BEq α] [LawfulBEq α] : ∀ l : List α, l.eraseDups.Nodup
  | [] => by simp
  | a :: as => by
    rw [eraseDups_cons, nodup_cons]
    exact ⟨by simp [mem_eraseDups], nodup_eraseDups _⟩
termination_by l => l.length
decreasing_by exact Nat.lt_succ_of_le (length_filter_le _ _)

theorem dropWhile_append_singleton {α} (p : α → Bool) (l : List α) (x : α) (hp : p x = false) :
    (l ++ [x]).dropWhile p = l.dropWhile p ++ [x] := by
  rw [dropWhile_append]
  split
  · next he => simp [isEmpty_iff.1 he, dropWhile, hp]
  · rfl

end List

namespace SPModel.Text

theorem tokInts_map (l : List Int) : tokInts (l.map Tok.int) = .ok l := by
  induction l with
  | nil => rfl
  | cons x xs ih => simp [tokInts, ih]

theorem tokInts_map_zero (l : List Int) : tokInts (l.map Tok.int ++ [.int 0]) = .ok (l ++ [0]) := by
  rw [← tokInts_map (l ++ [0]), List.map_append]
  rfl

theorem filter_append_zero (l : List Int) (h : ∀ x ∈ l, x ≠ 0) :
    (l ++ [0]).filter (· ≠ 0) = l := by
  rw [List.filter_append, List.filter_eq_self.2 fun x hx => decide_eq_true (h x hx)]
  exact List.append_nil l

theorem chunks10_flatten (fuel : Nat) (l : List Int) (h : l.length ≤ fuel) :
    (chunks10 fuel l).flatten = l := by
  fun_induction chunks10 fuel l with
  | case1 => exact (List.eq_nil_of_length_eq_zero (Nat.le_zero.1 h)).symm
  | case2 => rfl
  | case3 fuel l _ ih =>
    have hd : (l.drop 10).length ≤ fuel :=
      List.length_drop ▸ Nat.sub_le_of_le_add (Nat.le_trans h (Nat.add_le_add_left (by decide : 1 ≤ 10) _))
    rw [List.flatten_cons, ih hd, List.take_append_drop]

theorem sortedSet_of_sorted (l : List Int) (h : l.Pairwise (· < ·)) : sortedSet l = l := by
  induction l with
  | nil => rfl
  | cons x xs ih =>
    rw [List.pairwise_cons] at h
    unfold sortedSet at ih ⊢
    rw [List.foldr_cons, ih h.2]
    cases xs with
    | nil => rfl
    | cons y ys => simp [insertSorted, h.1 y List.mem_cons_self]

theorem rangeSupport_sorted (n : Nat) : (rangeSupport n).Pairwise (· < ·) := by
  unfold rangeSupport
  rw [List.pairwise_map]
  exact List.Pairwise.imp (fun h => Int.ofNat_lt.2 (Nat.succ_lt_succ h)) List.pairwise_lt_range

theorem sortedSet_rangeSupport (n : Nat) : sortedSet (rangeSupport n) = rangeSupport n :=
  sortedSet_of_sorted _ (rangeSupport_sorted n)

theorem rangeSupport_ne_zero (n : Nat) : ∀ x ∈ rangeSupport n, x ≠ 0 := by
  intro x hx
  simp only [rangeSupport, List.mem_map] at hx
  obtain ⟨i, -, rfl⟩ := hx
  exact Int.natCast_ne_zero.2 (Nat.succ_ne_zero i)

def midLines (support : List Int) : List Line :=
  if (supportLines support).isEmpty then [[]] else supportLines support

theorem unigenLines_eq (vals : List Clause) (nv : Nat) (support : List Int) :
    unigenLines vals nv support =
      headerLine nv vals.length :: (midLines support ++ cnfLines vals ++ [[]]) := rfl

theorem midLines_skip (support : List Int) : ∀ l ∈ midLines support, l = [] ∨ ∃ t, l = Tok.c :: t := by
  intro l hl
  unfold midLines at hl
  split at hl
  · simp at hl; exact Or.inl hl
  · simp only [supportLines, List.mem_map] at hl
    obtain ⟨ch, -, rfl⟩ := hl
    exact Or.inr ⟨_, rfl⟩

theorem parseCnfGo_emptyLine (rest : List Line) (acc : Parsed) :
    parseCnfGo ([] :: rest) acc = parseCnfGo rest acc := rfl

theorem parseCnfGo_indLine {toks : Line} {is : List Int} (h : tokInts toks = .ok is)
    (rest : List Line) (acc : Parsed) :
    parseCnfGo ((.c :: .ind :: toks) :: rest) acc =
      parseCnfGo rest { acc with sampling := acc.sampling ++ is.filter (· ≠ 0) } := by
  rw [parseCnfGo.eq_def]
  simp only [h]

theorem parseCnfGo_header (n : Int) (r : Line) (rest : List Line) (acc : Parsed) :
    parseCnfGo ((.p :: .cnf :: .int n :: r) :: rest) acc = parseCnfGo rest { acc with nvars := n } := rfl

theorem startsC_int (i : Int) (t : Line) : startsC (.int i :: t) = false := rfl

theorem startsP_int (i : Int) (t : Line) : startsP (.int i :: t) = false := rfl

theorem parseCnfGo_clauseLine (c : Clause) (hne : c ≠ []) (h0 : ∀ l ∈ c, l ≠ 0)
    (rest : List Line) (acc : Parsed) :
    parseCnfGo ((c.map Tok.int ++ [.int 0]) :: rest) acc =
      parseCnfGo rest { acc with clauses := acc.clauses ++ [c] } := by
  cases c with
  | nil => exact absurd rfl hne
  | cons i r =>
    have ht := tokInts_map_zero (i :: r)
    rw [List.map_cons, List.cons_append] at ht ⊢
    rw [parseCnfGo.eq_def]
    simp only [startsC_int, startsP_int, ht, filter_append_zero _ h0]
    rfl

theorem parseCnfGo_append (A B : List Line) (acc : Parsed) :
    parseCnfGo (A ++ B) acc = (parseCnfGo A acc).bind (parseCnfGo B) := by
  -- every equation of `parseCnfGo` consumes the first line of `A`, so one unfolding on each side leaves the
  -- induction hypothesis; for a clause line (`case9`) it names the new accumulator by a `have` and is given by hand
  fun_induction parseCnfGo A acc
  case case9 ih => simp only [List.cons_append, parseCnfGo, *]; exact ih
  all_goals simp only [List.nil_append, List.cons_append, parseCnfGo, Except.bind, if_true, if_false,
    Bool.false_eq_true, *]

theorem parseCnfGo_emptyLines (E : List Line) (hE : ∀ e ∈ E, e = []) (rest : List Line) (acc : Parsed) :
    parseCnfGo (E ++ rest) acc = parseCnfGo rest acc := by
  induction E with
  | nil => rfl
  | cons e es ih =>
    cases hE e List.mem_cons_self
    rw [List.cons_append, parseCnfGo_emptyLine, ih (fun e' he' => hE e' (List.mem_cons_of_mem _ he'))]

theorem parseCnfGo_indLines (chs : List (List Int))
    (h : ∀ c ∈ chs, ∀ l ∈ c, l ≠ 0) (rest : List Line) (acc : Parsed) :
    parseCnfGo (chs.map (fun ch => [Tok.c, .ind] ++ ch.map Tok.int ++ [.int 0]) ++ rest) acc =
      parseCnfGo rest { acc with sampling := acc.sampling ++ chs.flatten } := by
  induction chs generalizing acc with
  | nil => simp
  | cons c cs ih =>
    rw [List.map_cons, List.cons_append]
    exact (parseCnfGo_indLine (tokInts_map_zero c) _ _).trans <|
      (ih (fun c' hc' => h c' (List.mem_cons_of_mem _ hc')) _).trans <| by
        rw [filter_append_zero _ (h c List.mem_cons_self), List.flatten_cons, List.append_assoc]

theorem parseCnfGo_supportLines (support : List Int) (h : ∀ x ∈ support, x ≠ 0)
    (rest : List Line) (acc : Parsed) :
    parseCnfGo (supportLines support ++ rest) acc =
      parseCnfGo rest { acc with sampling := acc.sampling ++ support } := by
  have hfl := chunks10_flatten support.length support (Nat.le_refl _)
  unfold supportLines
  rw [parseCnfGo_indLines, hfl]
  intro c hc l hl
  exact h l (hfl ▸ List.mem_flatten.2 ⟨c, hc, hl⟩)

theorem parseCnfGo_midLines (support : List Int) (h : ∀ x ∈ support, x ≠ 0)
    (rest : List Line) (acc : Parsed) :
    parseCnfGo (midLines support ++ rest) acc =
      parseCnfGo rest { acc with sampling := acc.sampling ++ support } := by
  rw [← parseCnfGo_supportLines support h]
  unfold midLines
  split
  · next he => rw [List.isEmpty_iff.1 he]; exact parseCnfGo_emptyLine _ _
  · rfl

theorem parseCnfGo_cnfLines (vals : List Clause) (h : ∀ c ∈ vals, c ≠ [] ∧ ∀ l ∈ c, l ≠ 0)
    (rest : List Line) (acc : Parsed) :
    parseCnfGo (cnfLines vals ++ rest) acc =
      parseCnfGo rest { acc with clauses := acc.clauses ++ vals.reverse } := by
  have h' : ∀ c ∈ vals.reverse, c ≠ [] ∧ ∀ l ∈ c, l ≠ 0 := fun c hc => h c (List.mem_reverse.1 hc)
  unfold cnfLines
  generalize vals.reverse = cls at h' ⊢
  induction cls generalizing acc with
  | nil => simp
  | cons c cs ih =>
    have hc := h' c List.mem_cons_self
    rw [List.map_cons, List.cons_append, parseCnfGo_clauseLine c hc.1 hc.2,
      ih _ fun c' hc' => h' c' (List.mem_cons_of_mem _ hc')]
    simp

theorem parseCnfGo_unigen_body (vals : List Clause) (support : List Int)
    (h : ∀ c ∈ vals, c ≠ [] ∧ ∀ l ∈ c, l ≠ 0) (hs : ∀ x ∈ support, x ≠ 0)
    (rest : List Line) (acc : Parsed) :
    parseCnfGo (midLines support ++ cnfLines vals ++ rest) acc =
      parseCnfGo rest { acc with sampling := acc.sampling ++ support,
                                 clauses := acc.clauses ++ vals.reverse } := by
  rw [List.append_assoc, parseCnfGo_midLines _ hs, parseCnfGo_cnfLines _ h]

theorem parseCnfFile_unigen (vals : List Clause) (nv : Nat) (support : List Int)
    (h : ∀ c ∈ vals, c ≠ [] ∧ ∀ l ∈ c, l ≠ 0) (hs : ∀ x ∈ support, x ≠ 0) :
    parseCnfFile (unigenLines vals nv support)
      = .ok { clauses := vals.reverse, sampling := sortedSet support, nvars := (nv : Int) } := by
  unfold parseCnfFile
  rw [unigenLines_eq, headerLine, parseCnfGo_header, parseCnfGo_unigen_body _ _ h hs, parseCnfGo_emptyLine]
  rfl

theorem parsePycryptoGo_emptyLine (rest : List Line) (acc : List Clause × Int) :
    parsePycryptoGo ([] :: rest) acc = parsePycryptoGo rest acc := rfl

theorem parsePycryptoGo_commentLine (t : Line) (rest : List Line) (acc : List Clause × Int) :
    parsePycryptoGo ((.c :: t) :: rest) acc = parsePycryptoGo rest acc := rfl

theorem parsePycryptoGo_header (n : Int) (r : Line) (rest : List Line) (acc : List Clause × Int) :
    parsePycryptoGo ((.p :: .cnf :: .int n :: r) :: rest) acc = parsePycryptoGo rest (acc.1, n) := rfl

theorem parsePycryptoGo_clauseLine (c : Clause) (hne : c ≠ []) (rest : List Line) (acc : List Clause × Int) :
    parsePycryptoGo ((c.map Tok.int ++ [.int 0]) :: rest) acc = parsePycryptoGo rest (acc.1 ++ [c], acc.2) := by
  cases c with
  | nil => exact absurd rfl hne
  | cons i r =>
    have ht := tokInts_map_zero (i :: r)
    rw [List.map_cons, List.cons_append] at ht ⊢
    rw [parsePycryptoGo.eq_def]
    simp [startsC_int, startsP_int, ht, dropLastZero]

theorem parsePycryptoGo_skip (ls : List Line) (h : ∀ l ∈ ls, l = [] ∨ ∃ t, l = Tok.c :: t)
    (rest : List Line) (acc : List Clause × Int) :
    parsePycryptoGo (ls ++ rest) acc = parsePycryptoGo rest acc := by
  induction ls with
  | nil => rfl
  | cons l ls ih =>
    have ih' := ih (fun l' hl' => h l' (List.mem_cons_of_mem _ hl'))
    rcases h l List.mem_cons_self with rfl | ⟨t, rfl⟩
    · rw [List.cons_append, parsePycryptoGo_emptyLine, ih']
    · rw [List.cons_append, parsePycryptoGo_commentLine, ih']

theorem parsePycryptoGo_cnfLines (vals : List Clause) (h : ∀ c ∈ vals, c ≠ [])
    (rest : List Line) (acc : List Clause × Int) :
    parsePycryptoGo (cnfLines vals ++ rest) acc = parsePycryptoGo rest (acc.1 ++ vals.reverse, acc.2) := by
  have h' : ∀ c ∈ vals.reverse, c ≠ [] := fun c hc => h c (List.mem_reverse.1 hc)
  unfold cnfLines
  generalize vals.reverse = cls at h' ⊢
  induction cls generalizing acc with
  | nil => simp
  | cons c cs ih =>
    rw [List.map_cons, List.cons_append, parsePycryptoGo_clauseLine c (h' c List.mem_cons_self),
      ih _ fun c' hc' => h' c' (List.mem_cons_of_mem _ hc')]
    simp

/-- the pycryptosat reader skips support lines as comments and drops only the last `0` of a line: zero literals
    need no hypothesis -/
theorem parsePycrypto_unigen (vals : List Clause) (nv : Nat) (support : List Int)
    (h : ∀ c ∈ vals, c ≠ []) :
    parsePycrypto (unigenLines vals nv support) = .ok (vals.reverse, (nv : Int)) := by
  unfold parsePycrypto
  rw [unigenLines_eq, headerLine, parsePycryptoGo_header, List.append_assoc,
    parsePycryptoGo_skip _ (midLines_skip support), parsePycryptoGo_cnfLines _ h, parsePycryptoGo_emptyLine]
  rfl

def rstrip (ls : List Line) : List Line := (ls.reverse.dropWhile List.isEmpty).reverse

theorem rstrip_append_empty (ls : List Line) : rstrip (ls ++ [[]]) = rstrip ls := by
  simp [rstrip]

theorem stripLines_cons (hd : Line) (hne : hd ≠ []) (t : List Line) :
    stripLines (hd :: t) = hd :: rstrip t := by
  have hp : List.isEmpty hd = false := List.isEmpty_eq_false_iff.2 hne
  unfold stripLines rstrip
  rw [List.dropWhile_cons, hp]
  simp only [Bool.false_eq_true, if_false, List.reverse_cons]
  rw [List.dropWhile_append_singleton _ _ _ hp]
  simp

theorem rstrip_decomp (ls : List Line) : ∃ E : List Line, (∀ e ∈ E, e = []) ∧ ls = rstrip ls ++ E := by
  refine ⟨(ls.reverse.takeWhile List.isEmpty).reverse, ?_, ?_⟩
  · intro e he
    simpa using List.all_eq_true.1 List.all_takeWhile e (List.mem_reverse.1 he)
  · unfold rstrip
    rw [← List.reverse_append, List.takeWhile_append_dropWhile, List.reverse_reverse]

theorem parseCnfGo_rstrip (ls rest : List Line) (acc : Parsed) :
    parseCnfGo (rstrip ls ++ rest) acc = parseCnfGo (ls ++ rest) acc := by
  obtain ⟨E, hE, hdec⟩ := rstrip_decomp ls
  conv => rhs; rw [hdec, List.append_assoc, parseCnfGo_append]
  rw [parseCnfGo_append]
  cases parseCnfGo (rstrip ls) acc with
  | error e => rfl
  | ok a => exact (parseCnfGo_emptyLines E hE rest a).symm

theorem updateFile_headerLine (nv n : Nat) (rest : List Line) (sol : List Int) :
    updateFile (headerLine nv n :: rest) sol =
      .ok (headerLine nv (n + 1) :: (rest ++ [(sol.map (fun x => -x)).map Tok.int ++ [.int 0]])) := by
  unfold updateFile
  simp only [headerLine, List.map_map, Function.comp_def, Int.neg_one_mul]
  rfl

theorem updateFile_unigen (vals : List Clause) (nv : Nat) (support sol : List Int)
    (h : ∀ c ∈ vals, c ≠ [] ∧ ∀ l ∈ c, l ≠ 0) (hsup : ∀ x ∈ support, x ≠ 0)
    (hne : sol ≠ []) (h0 : ∀ l ∈ sol, l ≠ 0) :
    ∃ ls', updateFile (stripLines (unigenLines vals nv support)) sol = .ok ls' ∧
      ls'.head? = some (headerLine nv (vals.length + 1)) ∧
      parseCnfFile ls' = .ok { clauses := vals.reverse ++ [sol.map (fun x => -x)],
                               sampling := sortedSet support, nvars := (nv : Int) } := by
  have hne' : sol.map (fun x => -x) ≠ [] := fun h => hne (List.map_eq_nil_iff.1 h)
  have h0' : ∀ l ∈ sol.map (fun x => -x), l ≠ 0 := fun l hl => by
    obtain ⟨x, hx, rfl⟩ := List.mem_map.1 hl
    exact Int.neg_ne_zero.2 (h0 x hx)
  rw [unigenLines_eq, stripLines_cons _ (by simp [headerLine]), rstrip_append_empty, updateFile_headerLine]
  refine ⟨_, rfl, rfl, ?_⟩
  unfold parseCnfFile
  rw [headerLine, parseCnfGo_header, parseCnfGo_rstrip, parseCnfGo_unigen_body _ _ h hsup,
    parseCnfGo_clauseLine _ hne' h0']
  rfl

end SPModel.Text
