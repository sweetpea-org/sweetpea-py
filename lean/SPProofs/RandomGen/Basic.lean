/-
  For the RandomGen theorems (C05): `WF` (the unpacked `EnumData.wf`), `listGet`, and `mapIdxM`: when it returns
  (`mapIdxM_ok_iff`), and `mapIdxM_bij`.
-/
import SPProofs.RandomGen.Defs
import SPProofs.Basic.List
import SPProofs.Basic.BijOn

namespace SPModel.RandomGen
open SPModel Comb

theorem getD_lt' {α : Type} (dflt : α) {l : List α} {t : Nat} (ht : t < l.length) : l.getD t dflt = l[t] :=
  getD_eq_getElem dflt ht

theorem list_choice {α : Type} (dflt : α) (L : Nat) (P : Nat → α → Prop) (h : ∀ j, j < L → ∃ x, P j x) :
    ∃ l : List α, l.length = L ∧ ∀ j, j < L → P j (l.getD j dflt) := by
  induction L generalizing P with
  | zero => exact ⟨[], rfl, fun j hj => absurd hj (Nat.not_lt_zero j)⟩
  | succ L ih =>
    obtain ⟨x, hx⟩ := h 0 (Nat.succ_pos L)
    obtain ⟨l, hl, hP⟩ := ih (fun j => P (j + 1)) (fun j hj => h (j + 1) (Nat.succ_lt_succ hj))
    exact ⟨x :: l, congrArg Nat.succ hl, Nat.forall_lt_succ_left.mpr ⟨hx, hP⟩⟩

/-- what the proofs use of `EnumData.wf`: not the length of the counters (a missing counter reads as 0), nor the
    last conjunct (`perInstance` contains `simplePerm`) -/
structure WF (d : EnumData) (n : Nat) : Prop where
  len : d.valid.length = d.q
  nodup : ∀ vs ∈ d.valid, vs.Nodup
  le : d.simplePerm = true → n ≤ d.q
  pos : 0 < d.q

theorem wf_unpack {d : EnumData} {n : Nat} (h : d.wf n = true) : WF d n := by
  simp only [EnumData.wf, Bool.and_eq_true, decide_eq_true_eq, List.all_eq_true, Bool.or_eq_true,
    Bool.not_eq_true'] at h
  obtain ⟨⟨⟨⟨⟨h1, h2⟩, -⟩, h4⟩, h5⟩, -⟩ := h
  refine ⟨h1, h2, fun hs => ?_, h5⟩
  rcases h4 with h4 | h4
  · simp [hs] at h4
  · exact h4

theorem shapes_length (d : EnumData) : (shapes d).length = d.valid.length := by simp [shapes]

theorem shapes_getD {d : EnumData} {p : Nat} {vs : List Nat} (h : d.valid[p]? = some vs) :
    (shapes d).getD p 0 = vs.length := by
  rw [shapes, List.getD_eq_getElem?_getD, List.getElem?_map, h]; rfl

theorem listGet_ok_iff {l : List Nat} {i x : Nat} : listGet l i = .ok x ↔ l[i]? = some x := by
  unfold listGet
  cases h : l[i]? <;> simp

theorem listGet_getD {l : List Nat} {i : Nat} (h : i < l.length) : listGet l i = .ok (l.getD i 0) := by
  rw [listGet_ok_iff, getD_eq_getElem 0 h]; exact List.getElem?_eq_getElem h

theorem mapIdxM_ok_iff {α : Type} (dflt : α) (f : Nat → Nat → Except PyErr α) (l : List Nat) (i : Nat)
    (xs : List α) :
    mapIdxM f i l = .ok xs ↔
      xs.length = l.length ∧ ∀ k, k < l.length → f (i + k) (l.getD k 0) = .ok (xs.getD k dflt) := by
  induction l generalizing i xs with
  | nil => exact ⟨fun h => Except.ok.inj h ▸ ⟨rfl, nofun⟩, fun h => List.eq_nil_of_length_eq_zero h.1 ▸ rfl⟩
  | cons p ps ih =>
    show (f i p >>= fun x => mapIdxM f (i + 1) ps >>= fun ys => pure (x :: ys)) = _ ↔ _
    simp only [Except.bind_eq_ok, Except.pure_eq_ok, ih, List.length_cons, Nat.forall_lt_succ_left,
      List.getD_cons_zero, List.getD_cons_succ, Nat.add_zero, Nat.add_assoc, Nat.add_comm 1]
    constructor
    · rintro ⟨x, hx, ys, ⟨hl, hk⟩, rfl⟩
      exact ⟨congrArg Nat.succ hl, hx, hk⟩
    · rintro ⟨hl, h0, hk⟩
      cases xs with
      | nil => cases hl
      | cons x ys => exact ⟨x, h0, ys, ⟨Nat.succ.inj hl, hk⟩, rfl⟩

/-- Bijections `g p`, one for every entry `p` of `ps`, act entry by entry on lists of `m` components: entry `k`
    reads component `ι k p`, and `k ↦ ι k p` matches the entries of `ps` with the components (`hι`). -/
theorem mapIdxM_bij {β : Type} (dflt : β) {g : Nat → Nat → Except PyErr β} {D : Nat → Nat → Prop}
    {E : Nat → β → Prop} {ps : List Nat} {m : Nat} {ι : Nat → Nat → Nat}
    (hg : ∀ p ∈ ps, BijOn (g p) (D p) (Ok (E p)))
    (hι : BijOn (fun k => ι k (ps.getD k 0)) (· < ps.length) (· < m)) :
    BijOn (fun xs => mapIdxM (fun k p => listGet xs (ι k p) >>= g p) 0 ps)
      (fun xs => xs.length = m ∧ ∀ k, k < ps.length → D (ps.getD k 0) (xs.getD (ι k (ps.getD k 0)) 0))
      (Ok fun ys => ys.length = ps.length ∧ ∀ k, k < ps.length → E (ps.getD k 0) (ys.getD k dflt)) := by
  have key : ∀ {xs ys}, xs.length = m → (mapIdxM (fun k p => listGet xs (ι k p) >>= g p) 0 ps = .ok ys ↔
      ys.length = ps.length ∧
        ∀ k, k < ps.length → g (ps.getD k 0) (xs.getD (ι k (ps.getD k 0)) 0) = .ok (ys.getD k dflt)) := by
    intro xs ys hx
    rw [mapIdxM_ok_iff dflt]
    refine and_congr_right fun _ => forall₂_congr fun k hk => ?_
    rw [Nat.zero_add, listGet_getD (hx ▸ hι.maps k hk)]; rfl
  have maps : ∀ xs, (xs.length = m ∧ ∀ k, k < ps.length → D (ps.getD k 0) (xs.getD (ι k (ps.getD k 0)) 0)) →
      ∃ ys, mapIdxM (fun k p => listGet xs (ι k p) >>= g p) 0 ps = .ok ys ∧
        ys.length = ps.length ∧ ∀ k, k < ps.length → E (ps.getD k 0) (ys.getD k dflt) := by
    rintro xs ⟨hx, hD⟩
    obtain ⟨ys, hl, hy⟩ := list_choice dflt ps.length
      (fun k y => g (ps.getD k 0) (xs.getD (ι k (ps.getD k 0)) 0) = .ok y ∧ E (ps.getD k 0) y)
      (fun k hk => (hg _ (getD_mem hk)).maps _ (hD k hk))
    exact ⟨ys, (key hx).mpr ⟨hl, fun k hk => (hy k hk).1⟩, hl, fun k hk => (hy k hk).2⟩
  refine .of_ok maps (fun xs₁ xs₂ h₁ h₂ h => ?_) fun ys ⟨hl, hE⟩ => ?_
  · obtain ⟨ys, e₁, -⟩ := maps xs₁ h₁
    have e₂ := ((key h₂.1).mp (h ▸ e₁)).2
    have e₁ := ((key h₁.1).mp e₁).2
    refine getD_ext (h₁.1.trans h₂.1.symm) fun i hi => ?_
    obtain ⟨k, hk, rfl⟩ := hι.surj i (h₁.1 ▸ hi)
    exact (hg _ (getD_mem hk)).inj _ _ (h₁.2 k hk) (h₂.2 k hk) ((e₁ k hk).trans (e₂ k hk).symm)
  · obtain ⟨xs, hx, hxs⟩ := list_choice 0 m
      (fun i x => ∀ k, k < ps.length → ι k (ps.getD k 0) = i →
        D (ps.getD k 0) x ∧ g (ps.getD k 0) x = .ok (ys.getD k dflt))
      (fun i hi => by
        obtain ⟨k₀, hk₀, rfl⟩ := hι.surj i hi
        obtain ⟨x, hD, hx⟩ := (hg _ (getD_mem hk₀)).surj_ok (hE k₀ hk₀)
        exact ⟨x, fun k hk e => by cases hι.inj k k₀ hk hk₀ e; exact ⟨hD, hx⟩⟩)
    exact ⟨xs, ⟨hx, fun k hk => (hxs _ (hι.maps k hk) k hk rfl).1⟩,
      (key hx).mpr ⟨hl, fun k hk => (hxs _ (hι.maps k hk) k hk rfl).2⟩⟩

end SPModel.RandomGen
