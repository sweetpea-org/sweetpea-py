/-
  `countSolutions` returns the number of candidates (`countSolutions_eq`, C05 `count_eq_partial`).  Where the code
  sums over the sequences of instances `jthPrefix` enumerates, these are the sequences `permutationIndices`
  enumerates, in another order (`BijOn.enum_perm`).
-/
import SPProofs.RandomGen.Round

namespace SPModel.RandomGen
open SPModel Comb

theorem prodList_eq (l : List Nat) : prodList l = l.prod := List.prod_eq_foldl_nat.symm

theorem sum_map_const {α : Type} {l : List α} {g : α → Nat} {c : Nat} (h : ∀ x ∈ l, g x = c) :
    (l.map g).sum = l.length * c := by
  rw [List.map_eq_replicate_iff.mpr h, List.sum_replicate_nat]

theorem prod_map_const {α : Type} {l : List α} {g : α → Nat} {c : Nat} (h : ∀ x ∈ l, g x = c) :
    (l.map g).prod = c ^ l.length := by
  rw [List.map_eq_replicate_iff.mpr h, List.prod_replicate_nat]

theorem foldl_mul_map {α : Type} (f : α → Nat) (L : List α) (x : Nat) :
    L.foldl (fun acc a => acc * f a) x = x * (L.map f).prod := by
  induction L generalizing x with
  | nil => simp
  | cons a L ih => simp only [List.foldl_cons, ih, List.map_cons, List.prod_cons, Nat.mul_assoc]

theorem foldl_step_sum (step : Except PyErr Nat → Nat → Except PyErr Nat) (g : Nat → Nat) (L : List Nat)
    (acc : Nat) (h : ∀ i ∈ L, ∀ s, step (.ok s) i = .ok (s + g i)) :
    L.foldl step (.ok acc) = .ok (acc + (L.map g).sum) := by
  induction L generalizing acc with
  | nil => simp
  | cons i L ih =>
    rw [List.foldl_cons, h i (by simp), ih _ (fun j hj => h j (by simp [hj]))]
    simp only [List.map_cons, List.sum_cons, Nat.add_assoc]

/-- number of source choices along the sequence of instances an enumeration returns -/
def srcProdOf (sh : List Nat) : Except PyErr (List Nat) → Nat
  | .ok w => prodList (w.map (fun x => sh.getD x 0))
  | .error _ => 0

theorem srcProdOf_const {d : EnumData} {n : Nat} (hwf : WF d n) {s0 : Nat} (hall : ∀ s ∈ shapes d, s = s0)
    {w : List Nat} (hw : PermOK d n w) : srcProdOf (shapes d) (.ok w) = s0 ^ n := by
  simp only [srcProdOf]
  rw [prodList_eq, prod_map_const (c := s0), hw.word.1]
  intro x hx
  have hx' : x < (shapes d).length := by rw [shapes_length, hwf.len]; exact hw.word.2 x hx
  exact hall _ (getD_mem hx')

theorem bounded_iff_permPrefix {q : Nat} {a : Avail} (ha : ∀ i, i < q → a.at i = 1) (n : Nat) (w : List Nat) :
    IsBoundedPrefix q a n w ↔ IsPermutationPrefix q n w := by
  refine and_congr_right fun _ => and_congr_right fun hlt => ?_
  rw [List.nodup_iff_count_le_one]
  refine ⟨fun hc x => ?_, fun hnd i hi => ha i hi ▸ hnd i⟩
  by_cases hx : x ∈ w
  · exact ha x (hlt x hx) ▸ hc x (hlt x hx)
  · rw [List.count_eq_zero_of_not_mem hx]; exact Nat.zero_le 1

theorem sumCombinationProducts_general {d : EnumData} {count n : Nat}
    (hcond : ((shapes d).all (fun s => s == (shapes d).headD 0) && uniformM d.avail) = false)
    (hok : ∀ i, i < count → ∃ p, prefixIdx d.q d.avail n i = .ok p) :
    sumCombinationProducts d count n =
      .ok ((List.range count).map (fun i => srcProdOf (shapes d) (prefixIdx d.q d.avail n i))).sum := by
  unfold sumCombinationProducts
  simp only [hcond, Bool.false_eq_true, if_false]
  rw [foldl_step_sum _ (fun i => srcProdOf (shapes d) (prefixIdx d.q d.avail n i))]
  · rw [Nat.zero_add]
  · intro i hi s
    obtain ⟨p, hp⟩ := hok i (List.mem_range.mp hi)
    simp only [hp, prefixIdx_ok_iff.mp hp, bind, Except.bind, srcProdOf]

/-- the extra hypothesis of `C05.count_eq_partial` on enumerators with plain permutations: `jthPrefix`, over which
    the code sums, enumerates the plain permutation prefixes, or one of the two closed formulas is used -/
def SimpleOK (d : EnumData) (n : Nat) : Prop :=
  d.simplePerm = true →
    (∀ i, i < d.q → d.avail.at i = 1) ∨
    ((shapes d).all (fun s => s == (shapes d).headD 0) && uniformM d.avail) = true ∨
    perInstance d n = true

theorem withSources_eq {d : EnumData} {n : Nat} (hwf : WF d n) (hs : SimpleOK d n) :
    (if perInstance d n = true then
        (Except.ok (crossingsShape d n * prodList (shapes d)) : Except PyErr Nat)
      else sumCombinationProducts d (crossingsShape d n) n) =
      .ok ((List.range (crossingsShape d n)).map (srcChoices d n)).sum := by
  cases hpi : perInstance d n with
  | true =>
    rw [if_pos rfl, sum_map_const (g := srcChoices d n) (fun j _ => if_pos hpi), List.length_range]
  | false =>
    have hsc : srcChoices d n = fun j => srcProdOf (shapes d) (permutationIndices d n j) :=
      funext fun j => if_neg (Bool.eq_false_iff.1 hpi)
    rw [if_neg Bool.false_ne_true, hsc]
    cases hcond : ((shapes d).all (fun s => s == (shapes d).headD 0) && uniformM d.avail) with
    | true =>
      -- closed formula: every instance has the same number `s0` of source combinations
      cases hsh : shapes d with
      | nil => have := shapes_length d; rw [hsh, hwf.len] at this; exact absurd this.symm (Nat.ne_of_gt hwf.pos)
      | cons s0 rest =>
        have hall : ∀ s ∈ shapes d, s = s0 := fun s hs => by
          have := List.all_eq_true.mp (Bool.and_eq_true_iff.mp hcond).1 s hs
          rw [hsh] at this
          exact eq_of_beq this
        rw [← hsh, sum_map_const (c := s0 ^ n) fun j hj => by
          obtain ⟨w, hw, hok⟩ := perm_range hwf (List.mem_range.mp hj)
          rw [hw]; exact srcProdOf_const hwf hall hok]
        unfold sumCombinationProducts
        rw [if_pos hcond]
        simp only [hsh, List.length_range]
    | false =>
      -- `prefixIdx` and `permutationIndices` enumerate the same sequences
      have he : IsBoundedPrefix d.q d.avail n = PermOK d n := by
        rw [permOK_eq]
        cases hsp : d.simplePerm with
        | false => rfl
        | true =>
          refine funext fun w => propext (bounded_iff_permPrefix ?_ n w)
          rcases hs hsp with h | h | h
          · exact h
          · rw [hcond] at h; cases h
          · rw [hpi] at h; cases h
      have hb := prefixIdx_bij d.q d.avail n
      rw [he] at hb
      have hperm := ((perm_bij hwf).enum_perm hb).map (srcProdOf (shapes d))
      have hN : crossingsShape d n = countPrefixes d.q d.avail n := by simpa only [List.length_map, List.length_range] using hperm.length_eq
      rw [sumCombinationProducts_general hcond fun i hi => (hb.maps i (hN ▸ hi)).imp fun _ h => h.1, hN]
      rw [List.map_map, List.map_map, hN] at hperm
      exact congrArg Except.ok hperm.sum_nat.symm

theorem countSolutions_eq {d : EnumData} {n : Nat} (hwf : WF d n) (hs : SimpleOK d n) :
    countSolutions d n = .ok (candidates d n) := by
  simp only [countSolutions, candidates]
  have h := withSources_eq hwf hs
  -- the `do` block hands its continuation to both branches of the `if`, so the `if` is split first
  by_cases hc : perInstance d n = true
  · rw [if_pos hc] at h ⊢
    rw [h]
    simp only [bind, Except.bind, pure, Except.pure, foldl_mul_map, ← List.sum_eq_foldl_nat, prodList_eq]
  · rw [if_neg hc] at h ⊢
    rw [h]
    simp only [bind, Except.bind, pure, Except.pure, foldl_mul_map, ← List.sum_eq_foldl_nat, prodList_eq]

end SPModel.RandomGen
