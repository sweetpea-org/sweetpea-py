/-
  The parts of `generateTrialValues` (C05): `perm_bij` (`permutationIndices` maps `[0, crossingsShape)` one-to-one
  onto `PermOK`), `indCombos` as a `mapIdxM`, and `generateTrialValues` as three parts followed by `assemble`
  (`generate_ok`).
-/
import SPProofs.RandomGen.Basic

namespace SPModel.RandomGen
open SPModel Comb

/-- `jthPrefix` as `permutationIndices` calls it: no prefix is an error -/
def prefixIdx (q : Nat) (a : Avail) (n i : Nat) : Except PyErr (List Nat) :=
  match jthPrefix q a n i with
  | .ok (some p) => .ok p
  | .ok none => .error .typeError
  | .error e => .error e

theorem prefixIdx_ok_iff {q : Nat} {a : Avail} {n i : Nat} {w : List Nat} :
    prefixIdx q a n i = .ok w ↔ jthPrefix q a n i = .ok (some w) := by
  unfold prefixIdx
  split <;> simp [*]

theorem prefixIdx_bij (q : Nat) (a : Avail) (n : Nat) :
    BijOn (prefixIdx q a n) (· < countPrefixes q a n) (Ok (IsBoundedPrefix q a n)) :=
  (jthPrefix_bij q a n).wrap (G' := Except.ok)
    (fun | .ok (some p) => .ok p | .ok none => .error .typeError | .error e => .error e)
    (fun _ => rfl) fun _ _ => Except.ok.inj

theorem crossingsShape_eq {d : EnumData} {n : Nat} (hwf : WF d n) :
    crossingsShape d n = if d.simplePerm then fallingProd d.q n else countPrefixes d.q d.avail n := by
  unfold crossingsShape
  cases hs : d.simplePerm with
  | false => rfl
  | true =>
    have hfp := fallingProd_mul_factorial d.q n (hwf.le hs)
    rw [if_pos rfl, if_pos rfl]
    by_cases hq : n = d.q
    · rw [if_neg (not_not_intro hq)]
      subst hq
      rw [Nat.sub_self] at hfp
      exact hfp.symm.trans (Nat.mul_one _)
    · rw [if_pos hq]
      exact Nat.div_eq_of_eq_mul_left (factorial_pos _) hfp.symm

theorem PermOK.word {d : EnumData} {n : Nat} {w : List Nat} (h : PermOK d n w) :
    w.length = n ∧ ∀ x ∈ w, x < d.q := by
  unfold PermOK at h
  split at h
  · exact ⟨h.1, h.2.1⟩
  · exact ⟨h.1, h.2.1⟩

theorem PermOK.getD_lt {d : EnumData} {n : Nat} {w : List Nat} (h : PermOK d n w) {k : Nat} (hk : k < n) :
    w.getD k 0 < d.q :=
  h.word.2 _ (getD_mem (by rw [h.word.1]; exact hk))

theorem permutationIndices_eq (d : EnumData) (n : Nat) :
    permutationIndices d n = if d.simplePerm then jthPermutationPrefix d.q n else prefixIdx d.q d.avail n := by
  funext j
  unfold permutationIndices prefixIdx
  cases d.simplePerm <;> rfl

theorem permOK_eq (d : EnumData) (n : Nat) :
    PermOK d n = if d.simplePerm then IsPermutationPrefix d.q n else IsBoundedPrefix d.q d.avail n := by
  funext w
  unfold PermOK
  cases d.simplePerm <;> rfl

theorem perm_bij {d : EnumData} {n : Nat} (hwf : WF d n) :
    BijOn (permutationIndices d n) (· < crossingsShape d n) (Ok (PermOK d n)) := by
  rw [permutationIndices_eq, crossingsShape_eq hwf, permOK_eq]
  cases hs : d.simplePerm with
  | true => exact jthPermutationPrefix_bij d.q n
  | false => exact prefixIdx_bij d.q d.avail n

theorem perm_range {d : EnumData} {n : Nat} (hwf : WF d n) {j : Nat} (hj : j < crossingsShape d n) :
    ∃ w, permutationIndices d n j = .ok w ∧ PermOK d n w :=
  (perm_bij hwf).maps j hj

theorem full_perm_mem {w : List Nat} {q : Nat} (hlen : w.length = q) (hlt : ∀ x ∈ w, x < q) (hnd : w.Nodup)
    {p : Nat} (hp : p < q) : p ∈ w := by
  have hsub : w ⊆ List.range q := fun x hx => List.mem_range.mpr (hlt x hx)
  have hsp : w.Subperm (List.range q) := List.subperm_of_subset hnd hsub
  have hperm : w.Perm (List.range q) := hsp.perm_of_length_le (by simp [hlen])
  exact hperm.mem_iff.mpr (List.mem_range.mpr hp)

theorem perm_full {d : EnumData} {n : Nat} (hp : perInstance d n = true) {w : List Nat}
    (hw : PermOK d n w) : n = d.q ∧ w.Nodup ∧ ∀ p, p < d.q → ∃ k, k < n ∧ w.getD k 0 = p := by
  unfold perInstance at hp
  simp only [Bool.and_eq_true, decide_eq_true_eq] at hp
  obtain ⟨⟨hn, -⟩, hs⟩ := hp
  unfold PermOK at hw
  simp only [hs, if_true] at hw
  obtain ⟨hl, hlt, hnd⟩ := hw
  refine ⟨hn, hnd, fun p hpq => ?_⟩
  have := full_perm_mem (hl.trans hn) hlt hnd hpq
  obtain ⟨k, hk, hkp⟩ := exists_getD_of_mem this
  exact ⟨k, hl ▸ hk, hkp⟩

/-- one step of `indCombos` -/
def comboFor (n : Nat) (ind : List Nat) (j nlev : Nat) : Except PyErr (List Nat) := do
  let idx ← listGet ind j
  jthCombination n nlev idx

theorem indCombos_eq (d : EnumData) (n : Nat) (ind : List Nat) (levels : List Nat) (j : Nat) :
    indCombos d n ind j levels = mapIdxM (comboFor n ind) j levels := by
  induction levels generalizing j with
  | nil => rfl
  | cons nl rest ih =>
    show (listGet ind j >>= fun idx => jthCombination n nl idx >>= fun combo =>
      indCombos d n ind (j + 1) rest >>= fun more => pure (combo :: more)) = (comboFor n ind j nl >>= _)
    rw [ih, comboFor, bind_assoc]

/-- the last line of `generateTrialValues`: the three parts read trial by trial -/
def assemble (n : Nat) (w srcs : List Nat) (combos : List (List Nat)) : List TrialValue :=
  (List.range n).map (fun t =>
    { inst := w.getD t 0, source := srcs.getD t 0, ind := combos.map (fun cb => cb.getD t 0) })

theorem generate_ok {d : EnumData} {c : Components} {n : Nat} {w srcs : List Nat} {combos : List (List Nat)}
    (hw : permutationIndices d n c.perm = .ok w) (hs : mapIdxM (sourceFor d n c.src) 0 w = .ok srcs)
    (hc : mapIdxM (comboFor n c.ind) 0 d.indLevels = .ok combos) :
    generateTrialValues d c n = .ok (assemble n w srcs combos) := by
  simp only [generateTrialValues, indCombos_eq, hw, hs, hc, bind, Except.bind]; rfl

end SPModel.RandomGen
