/-
  `round_bij` (C05): `generateTrialValues` maps the candidates `InRange` one-to-one onto `ValidRound`.  It is
  composed of `perm_bij`, `src_bij`, `ind_bij` (the last two instances of `mapIdxM_bij`) and of `assemble`.
-/
import SPProofs.RandomGen.Spec

namespace SPModel.RandomGen
open SPModel Comb

/-- the fourth part of `ValidRound`, read by factor: one word of `n` levels per independent factor -/
def CombosOK (d : EnumData) (n : Nat) (combos : List (List Nat)) : Prop :=
  combos.length = d.indLevels.length ∧
    ∀ j, j < d.indLevels.length → IsWord (d.indLevels.getD j 0) n (combos.getD j [])

theorem ind_bij (d : EnumData) (n : Nat) :
    BijOn (fun ind => mapIdxM (comboFor n ind) 0 d.indLevels)
      (fun ind => ind.length = d.indLevels.length ∧
        ∀ j, j < d.indLevels.length → ind.getD j 0 < (d.indLevels.getD j 0) ^ n)
      (Ok (CombosOK d n)) :=
  mapIdxM_bij [] (ι := fun k _ => k) (fun nl _ => jthCombination_bij n nl) .id

def srcAt (d : EnumData) (p comp : Nat) : Except PyErr Nat :=
  match d.valid[p]? with
  | none => .error .indexError
  | some vs => listGet vs comp

theorem srcAt_bij {d : EnumData} {n : Nat} (hwf : WF d n) {p : Nat} (hp : p < d.q) :
    BijOn (srcAt d p) (· < (shapes d).getD p 0) (Ok fun s => ∃ vs, d.valid[p]? = some vs ∧ s ∈ vs) := by
  have hp' : p < d.valid.length := hwf.len ▸ hp
  have hv : d.valid[p]? = some d.valid[p] := List.getElem?_eq_getElem hp'
  have hnd := hwf.nodup _ (List.getElem_mem hp')
  have : srcAt d p = listGet d.valid[p] := funext fun c => by simp only [srcAt, hv]
  simp only [this, shapes_getD hv, hv, Option.some.injEq, exists_eq_left']
  refine .of_ok (fun x h => ⟨_, listGet_getD h, getD_mem h⟩) (fun x₁ x₂ h₁ h₂ h => ?_) fun s h => ?_
  · rw [listGet_getD h₁, listGet_getD h₂] at h
    exact nodup_getD_inj hnd h₁ h₂ (Except.ok.inj h)
  · obtain ⟨i, hi, rfl⟩ := exists_getD_of_mem h
    exact ⟨i, hi, listGet_getD hi⟩

/-- `sourceFor d n src i p` is `listGet src (srcIdx d n i p) >>= srcAt d p` by definition -/
def srcIdx (d : EnumData) (n i p : Nat) : Nat := if perInstance d n then p else i

/-- the middle part of `InRange` -/
def SrcInRange (d : EnumData) (n : Nat) (w src : List Nat) : Prop :=
  if perInstance d n then
    src.length = d.q ∧ ∀ p, p < d.q → src.getD p 0 < (shapes d).getD p 0
  else
    src.length = n ∧ ∀ i, i < n → src.getD i 0 < (shapes d).getD (w.getD i 0) 0

/-- the third part of `ValidRound` -/
def SourcesOK (d : EnumData) (n : Nat) (w srcs : List Nat) : Prop :=
  srcs.length = n ∧ ∀ k, k < n → ∃ vs, d.valid[w.getD k 0]? = some vs ∧ srcs.getD k 0 ∈ vs

theorem src_bij {d : EnumData} {n : Nat} (hwf : WF d n) {w : List Nat} (hw : PermOK d n w) :
    BijOn (fun src => mapIdxM (sourceFor d n src) 0 w) (SrcInRange d n w) (Ok (SourcesOK d n w)) := by
  obtain ⟨hwl, hwq⟩ := hw.word
  subst hwl
  have hg := fun p hp => srcAt_bij hwf (hwq p hp)
  cases hpi : perInstance d w.length with
  | false =>
    refine (mapIdxM_bij 0 (m := w.length) (ι := srcIdx d w.length) hg ?_).of_iff (fun src => ?_) fun _ => Iff.rfl
    · simp only [srcIdx, hpi]
      exact .id
    · simp only [SrcInRange, srcIdx, hpi]; rfl
  | true =>
    -- `w` matches the crossing instances with the trials
    obtain ⟨hnq, hnd, hfull⟩ := perm_full hpi hw
    refine (mapIdxM_bij 0 (m := d.q) (ι := srcIdx d w.length) hg ?_).of_iff (fun src => ?_) fun _ => Iff.rfl
    · simp only [srcIdx, hpi, if_true]
      exact ⟨fun k hk => hw.getD_lt hk, fun k k' hk hk' => nodup_getD_inj hnd hk hk', hfull⟩
    · simp only [SrcInRange, srcIdx, hpi, if_true]
      refine and_congr_right fun _ => ⟨fun h k hk => h _ (hw.getD_lt hk), fun h p hp => ?_⟩
      obtain ⟨k, hk, rfl⟩ := hfull p hp
      exact h k hk

theorem assemble_length (n : Nat) (w srcs : List Nat) (combos : List (List Nat)) :
    (assemble n w srcs combos).length = n := by
  rw [assemble, List.length_map, List.length_range]

theorem mem_assemble {n : Nat} {w srcs : List Nat} {combos : List (List Nat)} {tv : TrialValue}
    (h : tv ∈ assemble n w srcs combos) :
    ∃ t, t < n ∧ tv = { inst := w.getD t 0, source := srcs.getD t 0, ind := combos.map (fun cb => cb.getD t 0) } := by
  obtain ⟨t, ht, rfl⟩ := List.mem_map.mp h
  exact ⟨t, List.mem_range.mp ht, rfl⟩

theorem getD_map_getD {combos : List (List Nat)} {j : Nat} (hj : j < combos.length) (t : Nat) :
    (combos.map (fun cb => cb.getD t 0)).getD j 0 = (combos.getD j []).getD t 0 := by
  rw [getD_eq_getElem 0 (by rw [List.length_map]; exact hj), List.getElem_map, getD_eq_getElem [] hj]

theorem assemble_valid {d : EnumData} {n : Nat} {w srcs : List Nat} {combos : List (List Nat)}
    (hw : PermOK d n w) (hs : SourcesOK d n w srcs) (hc : CombosOK d n combos) :
    ValidRound d n (assemble n w srcs combos) := by
  refine ⟨assemble_length .., ?_, fun tv htv => ?_, fun tv htv => ?_⟩
  · rw [assemble, List.map_map]
    exact (map_range_getD hw.word.1).symm ▸ hw
  · obtain ⟨t, ht, rfl⟩ := mem_assemble htv
    exact hs.2 t ht
  · obtain ⟨t, ht, rfl⟩ := mem_assemble htv
    refine ⟨by simp only [List.length_map, hc.1], fun j hj => ?_⟩
    obtain ⟨hl, hlt⟩ := hc.2 j hj
    exact getD_map_getD (hc.1 ▸ hj) t ▸ hlt _ (getD_mem (hl ▸ ht))

def wordsOf (L : Nat) (tvs : List TrialValue) : List (List Nat) :=
  (List.range L).map fun j => tvs.map fun tv => tv.ind.getD j 0

theorem wordsOf_getD {L j : Nat} (hj : j < L) (tvs : List TrialValue) :
    (wordsOf L tvs).getD j [] = tvs.map fun tv => tv.ind.getD j 0 := by
  unfold wordsOf
  rw [getD_eq_getElem [] (by rw [List.length_map, List.length_range]; exact hj), List.getElem_map, List.getElem_range]

theorem assemble_surj {d : EnumData} {n : Nat} {tvs : List TrialValue} (hv : ValidRound d n tvs) :
    ∃ w srcs combos, PermOK d n w ∧ SourcesOK d n w srcs ∧ CombosOK d n combos ∧ tvs = assemble n w srcs combos := by
  obtain ⟨hlen, hperm, hsrc, hind⟩ := hv
  subst hlen
  refine ⟨tvs.map (·.inst), tvs.map (·.source), wordsOf d.indLevels.length tvs, hperm,
    ⟨List.length_map _, fun k hk => ?_⟩,
    ⟨by rw [wordsOf, List.length_map, List.length_range], fun j hj => ?_⟩, ?_⟩
  · rw [getD_map _ _ hk, getD_map _ _ hk]; exact hsrc _ (List.getElem_mem hk)
  · refine wordsOf_getD hj tvs ▸ ⟨List.length_map _, fun x hx => ?_⟩
    obtain ⟨tv, htv, rfl⟩ := List.mem_map.mp hx
    exact (hind tv htv).2 j hj
  · refine List.ext_getElem (assemble_length ..).symm fun t ht _ => ?_
    have hrow : (wordsOf d.indLevels.length tvs).map (fun cb => cb.getD t 0) = tvs[t].ind := by
      rw [wordsOf, List.map_map]
      exact (List.map_congr_left fun j _ => getD_map _ _ ht).trans (map_range_getD (hind _ (List.getElem_mem ht)).1)
    simp only [assemble, List.getElem_map, List.getElem_range, getD_map _ _ ht, hrow]

theorem assemble_inj {d : EnumData} {n : Nat} {w₁ w₂ srcs₁ srcs₂ : List Nat} {combos₁ combos₂ : List (List Nat)}
    (hw₁ : w₁.length = n) (hw₂ : w₂.length = n) (hs₁ : srcs₁.length = n) (hs₂ : srcs₂.length = n)
    (hc₁ : CombosOK d n combos₁) (hc₂ : CombosOK d n combos₂)
    (h : assemble n w₁ srcs₁ combos₁ = assemble n w₂ srcs₂ combos₂) :
    w₁ = w₂ ∧ srcs₁ = srcs₂ ∧ combos₁ = combos₂ := by
  simp only [assemble, List.map_inj_left, List.mem_range, TrialValue.mk.injEq] at h
  refine ⟨getD_ext (hw₁.trans hw₂.symm) fun k hk => (h k (hw₁ ▸ hk)).1,
    getD_ext (hs₁.trans hs₂.symm) fun k hk => (h k (hs₁ ▸ hk)).2.1,
    List.ext_getElem (hc₁.1.trans hc₂.1.symm) fun j hj₁ hj₂ => ?_⟩
  have l₁ := (hc₁.2 j (hc₁.1 ▸ hj₁)).1
  have l₂ := (hc₂.2 j (hc₂.1 ▸ hj₂)).1
  rw [← getD_eq_getElem [] hj₁, ← getD_eq_getElem [] hj₂]
  refine getD_ext (l₁.trans l₂.symm) fun t ht => ?_
  rw [← getD_map_getD hj₁, ← getD_map_getD hj₂, (h t (l₁ ▸ ht)).2.2]

theorem inRange_parts {d : EnumData} {n : Nat} (hwf : WF d n) {c : Components} (hc : InRange d n c) :
    ∃ w srcs combos, permutationIndices d n c.perm = .ok w ∧ PermOK d n w ∧
      mapIdxM (sourceFor d n c.src) 0 w = .ok srcs ∧ SrcInRange d n w c.src ∧ SourcesOK d n w srcs ∧
      mapIdxM (comboFor n c.ind) 0 d.indLevels = .ok combos ∧ CombosOK d n combos := by
  obtain ⟨hp, ⟨w, hpw, hsrc⟩, hind⟩ := hc
  obtain ⟨w', hpw', hw⟩ := perm_range hwf hp
  cases hpw.symm.trans hpw'
  obtain ⟨srcs, hs, hsv⟩ := (src_bij hwf hw).maps _ hsrc
  obtain ⟨combos, hcb, hcv⟩ := (ind_bij d n).maps _ hind
  exact ⟨w, srcs, combos, hpw, hw, hs, hsrc, hsv, hcb, hcv⟩

theorem round_bij {d : EnumData} {n : Nat} (hwf : WF d n) :
    BijOn (generateTrialValues d · n) (InRange d n) (Ok (ValidRound d n)) := by
  refine .of_ok (fun c hc => ?_) (fun c₁ c₂ h₁ h₂ h => ?_) fun tvs hv => ?_
  · obtain ⟨w, srcs, combos, hpw, hw, hs, -, hsv, hcb, hcv⟩ := inRange_parts hwf hc
    exact ⟨_, generate_ok hpw hs hcb, assemble_valid hw hsv hcv⟩
  · obtain ⟨w₁, s₁, cb₁, hpw₁, hw₁, hs₁, hsrc₁, hsv₁, hcb₁, hcv₁⟩ := inRange_parts hwf h₁
    obtain ⟨w₂, s₂, cb₂, hpw₂, hw₂, hs₂, hsrc₂, hsv₂, hcb₂, hcv₂⟩ := inRange_parts hwf h₂
    rw [generate_ok hpw₁ hs₁ hcb₁, generate_ok hpw₂ hs₂ hcb₂] at h
    obtain ⟨rfl, rfl, rfl⟩ := assemble_inj hw₁.word.1 hw₂.word.1 hsv₁.1 hsv₂.1 hcv₁ hcv₂ (Except.ok.inj h)
    obtain ⟨p₁, src₁, ind₁⟩ := c₁
    obtain ⟨p₂, src₂, ind₂⟩ := c₂
    cases (perm_bij hwf).inj _ _ h₁.1 h₂.1 (hpw₁.trans hpw₂.symm)
    cases (src_bij hwf hw₁).inj _ _ hsrc₁ hsrc₂ (hs₁.trans hs₂.symm)
    cases (ind_bij d n).inj _ _ h₁.2.2 h₂.2.2 (hcb₁.trans hcb₂.symm)
    rfl
  · obtain ⟨w, srcs, combos, hw, hsv, hcv, rfl⟩ := assemble_surj hv
    obtain ⟨j, hj, hjw⟩ := (perm_bij hwf).surj_ok hw
    obtain ⟨src, hsrc, hs⟩ := (src_bij hwf hw).surj_ok hsv
    obtain ⟨ind, hind, hcb⟩ := (ind_bij d n).surj_ok hcv
    exact ⟨⟨j, src, ind⟩, ⟨hj, ⟨w, hjw, hsrc⟩, hind⟩, generate_ok hjw hs hcb⟩

end SPModel.RandomGen
