/- Specification of `pop_count` (`popPairs`, `popLayer`, `popCount`). -/
import SPProofs.Card.Adders

namespace SPModel
open Builder

/-- What `pop_count` keeps of a count: all of it without saturation (`saturate_at = 0`).  Like a
    remainder it can be taken before or after adding (`stored_add`), so the layers of the circuit
    keep `stored sat` of the sum of their words. -/
def stored (sat c : Nat) : Nat := if sat = 0 then c else satRepr sat c

theorem stored_add (sat a b : Nat) : stored sat (stored sat a + b) = stored sat (a + b) := by
  unfold stored
  split
  · rfl
  · exact satRepr_add_left ..

theorem stored_bitsVal (τ : Assign) {sat : Nat} {bits : List Int} (h : sat = 0 ∨ bits.length ≤ sat) :
    stored sat (bitsVal τ bits) = bitsVal τ bits := by
  unfold stored
  split
  · rfl
  · exact satRepr_of_lt (Nat.pos_of_ne_zero ‹_›) (Nat.lt_of_lt_of_le (bitsVal_lt τ bits)
      (Nat.pow_le_pow_right Nat.two_pos (h.resolve_left ‹_›)))

/-- The stored form read by the width of the word: narrower than `sat`, it is the count itself. -/
theorem stored_eq_ite {τ : Assign} {sat c : Nat} {bits : List Int}
    (h : bitsVal τ bits = stored sat c) :
    bitsVal τ bits = if sat = 0 ∨ bits.length < sat then c else satRepr sat c := by
  unfold stored at h
  by_cases h0 : sat = 0
  · rwa [if_pos h0, if_pos (.inl h0)] at *
  · rw [if_neg h0] at h
    split
    · -- it is below the radix, where `satRepr` is exact
      have hlt : bitsVal τ bits < 2 ^ (sat - 1) := Nat.lt_of_lt_of_le (bitsVal_lt τ bits)
        (Nat.pow_le_pow_right Nat.two_pos (Nat.le_sub_one_of_lt (Or.resolve_left ‹_› h0)))
      exact ((Arith.satQ_cmp hlt).1.1 h.symm).symm
    · exact h

theorem stored_cmp {L v c k : Nat} (h : v = stored (L + 1) c) (hk : k < 2 ^ L) :
    (v = k ↔ c = k) ∧ (v < k ↔ c < k) ∧ (k < v ↔ k < c) :=
  h ▸ Arith.satQ_cmp hk

/-- Sum of the values of a list of words. -/
def total (τ : Assign) (bl : List (List Int)) : Nat := (bl.map (bitsVal τ)).sum

theorem total_append (τ : Assign) (l₁ l₂ : List (List Int)) :
    total τ (l₁ ++ l₂) = total τ l₁ + total τ l₂ := by
  unfold total
  rw [List.map_append, List.sum_append_nat]

theorem total_singletons (τ : Assign) (l : List Int) : total τ (l.map (fun x => [x])) = litCount τ l := by
  induction l with
  | nil => rfl
  | cons x l ih =>
    rw [litCount_cons, ← ih]
    simp [total, bitsVal_cons]

namespace Builder

theorem clog2_go_spec (n fuel p : Nat) (h : n ≤ 2 ^ (p + fuel)) : n ≤ 2 ^ (clog2.go n p fuel) := by
  fun_induction clog2.go n p fuel with
  | case1 => exact h
  | case2 _ _ h' => exact h'
  | case3 p fuel _ ih => exact ih (by rwa [Nat.add_assoc, Nat.add_comm 1])

theorem le_two_pow_clog2 (n : Nat) : n ≤ 2 ^ clog2 n := by
  unfold clog2
  apply clog2_go_spec
  simpa using Nat.le_of_lt Nat.lt_two_pow_self

/-- The width of the bit lists after `v - 1` layers of `pop_count`. -/
def popWidth (sat v : Nat) : Nat := if sat = 0 then v else min v sat

theorem popWidth_one (sat : Nat) : popWidth sat 1 = 1 := by
  unfold popWidth
  split
  · rfl
  · exact Nat.min_eq_left (Nat.pos_of_ne_zero ‹_›)

theorem popWidth_succ (sat v : Nat) (hv : 0 < v) :
    0 < popWidth sat v ∧ (sat = 0 ∨ popWidth sat v ≤ sat) ∧
      popWidth sat (v + 1) = if sat = 0 then popWidth sat v + 1 else min (popWidth sat v + 1) sat := by
  unfold popWidth
  split
  · exact ⟨hv, .inl ‹_›, rfl⟩
  · exact ⟨Nat.lt_min.2 ⟨hv, Nat.pos_of_ne_zero ‹_›⟩, .inr (Nat.min_le_right ..), by
      rw [← Nat.add_min_add_right, Nat.min_assoc, Nat.min_eq_right (Nat.le_succ sat)]⟩

/-- One step of `popPairs`: the two words are added, exactly or saturating. -/
theorem popPairs_cons (b : Builder) (sat : Nat) (l r : List Int) (hpos : 0 < l.length)
    (hlen : l.length = r.length) (hsat : sat = 0 ∨ l.length ≤ sat)
    (hlo : ∀ x ∈ l, LitOK b.nvars x) (hro : ∀ x ∈ r, LitOK b.nvars x) :
    ∃ out b', (∀ acc rest, b.popPairs sat acc ((l, r) :: rest) = b'.popPairs sat (out :: acc) rest) ∧
      out.length = (if sat = 0 then l.length + 1 else min (l.length + 1) sat) ∧
      Run b b' out (fun τ => bitsVal τ out = stored sat (bitsVal τ l + bitsVal τ r)) := by
  unfold stored
  by_cases h0 : sat = 0
  · obtain ⟨c, ss, b', heq, hss, run⟩ := rippleCarry_run b l r hlo hro hlen hpos
    exact ⟨c :: ss.reverse, b', fun acc rest => by simp only [popPairs, h0, if_true, heq],
      by simp [h0, hss],
      run.mono (fun x hx => .inl (by simpa using hx)) fun _ e => by rwa [if_pos h0]⟩
  · obtain ⟨out, b', heq, hol, run⟩ :=
      rippleSaturate_run b l r sat hlo hro hlen hpos (hsat.resolve_left h0)
    exact ⟨out, b', fun acc rest => by simp only [popPairs, h0, if_false, heq],
      by rw [if_neg h0, hol], run.imp fun _ e => by rwa [if_neg h0]⟩

theorem popPairs_run (sat v : Nat) (hv : 0 < v) :
    ∀ (pairs : List (List Int × List Int)) (b : Builder) (acc : List (List Int)),
    (∀ p ∈ pairs, (p.1.length = popWidth sat v ∧ p.2.length = popWidth sat v) ∧
      (∀ x ∈ p.1, LitOK b.nvars x) ∧ (∀ x ∈ p.2, LitOK b.nvars x)) →
    ∃ news b', b.popPairs sat acc pairs = .ok (news ++ acc, b') ∧
      news.length = pairs.length ∧ (∀ bits ∈ news, bits.length = popWidth sat (v + 1)) ∧
      Run b b' news.flatten (fun τ => stored sat (total τ news) =
        stored sat (total τ (pairs.map Prod.fst) + total τ (pairs.map Prod.snd))) := by
  intro pairs
  induction pairs with
  | nil =>
    exact fun b acc _ => ⟨[], b, rfl, rfl, fun _ h => (List.not_mem_nil h).elim,
      Run.refl b (fun _ h => nomatch h) (fun _ => rfl)⟩
  | cons p rest ih =>
    obtain ⟨l, r⟩ := p
    intro b acc hp
    obtain ⟨⟨hl, hr⟩, hlo, hro⟩ := hp (l, r) (List.mem_cons_self ..)
    obtain ⟨hpos, hsat, hw⟩ := popWidth_succ sat v hv
    obtain ⟨out, b1, heq, hol, r₁⟩ :=
      popPairs_cons b sat l r (hl ▸ hpos) (hl.trans hr.symm) (hl ▸ hsat) hlo hro
    obtain ⟨news, b2, heq2, hnl, hnw, r₂⟩ := ih b1 (out :: acc) fun p hm =>
      have h := hp p (List.mem_cons_of_mem _ hm)
      ⟨h.1, fun x hx => r₁.lift (h.2.1 x hx), fun x hx => r₁.lift (h.2.2 x hx)⟩
    refine ⟨news ++ [out], b2, by simp [heq, heq2], by simp [hnl],
      List.forall_mem_append.2 ⟨hnw, List.forall_mem_singleton.2 (hol.trans (hl ▸ hw.symm))⟩,
      (r₁.seq r₂).mono (fun x hx => .inl (by simpa [or_comm] using hx))
        (fun τ h => ?_)⟩
    -- what `news` stores may be replaced by the sums of `rest`, what `out` stores by `l + r`
    rw [total_append, ← stored_add, h.2, stored_add, Nat.add_comm, total, List.map_singleton,
      List.sum_singleton, h.1, stored_add]
    simp only [total, List.map_cons, List.sum_cons]
    rw [Nat.add_add_add_comm]

theorem halves {α : Type} (l : List α) {n : Nat} (h : l.length = 2 * n) :
    l.length / 2 = n ∧ (l.take n).length = n ∧ (l.drop n).length = n := by
  rw [List.length_take, List.length_drop, h, Nat.mul_div_cancel_left n Nat.two_pos, Nat.two_mul]
  exact ⟨rfl, Nat.min_eq_left (Nat.le_add_right n n), Nat.add_sub_cancel n n⟩

theorem popLayer_run (sat q : Nat) : ∀ (fuel v : Nat) (bl : List (List Int)) (b : Builder),
    bl.length = 2 ^ q → q ≤ fuel → 0 < v →
    (∀ bits ∈ bl, bits.length = popWidth sat v ∧ ∀ x ∈ bits, LitOK b.nvars x) →
    ∃ out b', b.popLayer sat fuel bl = .ok (out, b') ∧ out.length = popWidth sat (v + q) ∧
      Run b b' out (fun τ => bitsVal τ out = stored sat (total τ bl)) := by
  induction q with
  | zero =>
    intro fuel v bl b hlen _ hv hwf
    obtain ⟨x, rfl⟩ := List.length_eq_one_iff.1 hlen
    have hx := hwf x (List.mem_singleton_self x)
    refine ⟨x, b, by cases fuel <;> rfl, hx.1, Run.refl b hx.2 fun τ => ?_⟩
    rw [total, List.map_singleton, List.sum_singleton,
      stored_bitsVal τ (hx.1 ▸ (popWidth_succ sat v hv).2.1)]
  | succ q ih =>
    intro fuel v bl b hlen hf hv hwf
    obtain ⟨fuel, rfl⟩ := Nat.exists_eq_add_one_of_ne_zero (Nat.ne_zero_of_lt hf)
    rw [Nat.pow_succ, Nat.mul_comm] at hlen
    obtain ⟨hmid, htl, hdl⟩ := halves bl hlen
    have h2 : 2 ≤ bl.length := hlen ▸ Nat.le_mul_of_pos_right 2 (Nat.two_pow_pos q)
    obtain ⟨news, b1, heq, hnl, hnw, r₁⟩ :=
      popPairs_run sat v hv ((bl.take (2 ^ q)).zip (bl.drop (2 ^ q))) b [] fun p hm =>
        have h₁ := hwf _ (List.mem_of_mem_take (List.of_mem_zip hm).1)
        have h₂ := hwf _ (List.mem_of_mem_drop (List.of_mem_zip hm).2)
        ⟨⟨h₁.1, h₂.1⟩, h₁.2, h₂.2⟩
    rw [List.length_zip, htl, hdl, Nat.min_self] at hnl
    obtain ⟨out, b2, heq2, hol, r₂⟩ := ih fuel (v + 1) news b1 hnl (Nat.le_of_succ_le_succ hf) (Nat.succ_pos v)
      fun bits hm => ⟨hnw bits hm, fun x hx => r₁.lits x (List.mem_flatten.2 ⟨bits, hm, hx⟩)⟩
    refine ⟨out, b2, ?_, hol.trans (congrArg _ (Nat.add_right_comm v 1 q)),
      (r₁.seq r₂).mono (fun l h => .inl (List.mem_append_right _ h))
        (fun τ h => ?_)⟩
    · rw [popLayer, hmid, heq, List.append_nil]
      · exact heq2
      · intro x hx
        rw [hx] at h2
        simp at h2
    · rw [h.2, h.1, List.map_fst_zip (Nat.le_of_eq (htl.trans hdl.symm)),
        List.map_snd_zip (Nat.le_of_eq (hdl.trans htl.symm)), ← total_append, List.take_append_drop]

theorem popCount_run (b : Builder) (xs : List Int) (sat : Nat)
    (hx : ∀ x ∈ xs, LitOK b.nvars x) (hne : xs ≠ []) :
    ∃ out b', b.popCount xs sat = .ok (out, b') ∧
      out.length = (if sat = 0 then clog2 xs.length + 1 else min (clog2 xs.length + 1) sat) ∧
      Run b b' out (fun τ => bitsVal τ out = stored sat (litCount τ xs)) := by
  simp only [popCount, List.isEmpty_iff, hne, if_false, castL_def]
  have r₀ := freshZero_run b (2 ^ clog2 xs.length - xs.length)
  have hal := freshN_fst_length b (2 ^ clog2 xs.length - xs.length)
  generalize (b.freshN (2 ^ clog2 xs.length - xs.length)).2.zeroOut _ = b0 at r₀ ⊢
  generalize (b.freshN (2 ^ clog2 xs.length - xs.length)).1 = aux at r₀ hal ⊢
  have hlen : ((xs ++ castL aux).map (fun x => [x])).length = 2 ^ clog2 xs.length := by
    rw [List.length_map, List.length_append, castL_length, hal,
      Nat.add_sub_cancel' (le_two_pow_clog2 xs.length)]
  obtain ⟨out, b', heq, hol, r₁⟩ := popLayer_run sat (clog2 xs.length) _ 1 _ b0 hlen
    (hlen ▸ Nat.le_of_lt Nat.lt_two_pow_self) Nat.one_pos fun bits hm => by
      obtain ⟨x, hxm, rfl⟩ := List.mem_map.1 hm
      refine ⟨(popWidth_one sat).symm, fun y hy => ?_⟩
      rw [List.mem_singleton.1 hy]
      exact (List.mem_append.1 hxm).elim (fun h => r₀.lift (hx x h)) (r₀.lits x)
  refine ⟨out, b', heq, hol.trans (by rw [Nat.add_comm]; rfl),
    (r₀.seq r₁).mono (fun l h => .inl (List.mem_append_right _ h)) (fun τ h => ?_)⟩
  rw [h.2, total_singletons, litCount_append, litCount_eq_zero τ (castL aux) h.1, Nat.add_zero]

end Builder
end SPModel
