/- Items and chains: the clauses of an item say what the item says (`Item.sat_eq_holds`), a chain
   defines its variables (`Chain.defines`); the builder relations `Ext` / `GExt` (extension by a
   chain; by gates only). -/
import SPProofs.Card.Sem
import SPProofs.Basic.Defs

namespace SPModel
open Builder

theorem LitOK.mono {n m : Nat} {l : Int} (h : LitOK n l) (hnm : n ≤ m) : LitOK m l :=
  ⟨h.1, Nat.le_trans h.2 hnm⟩

theorem LitOK.natCast {n v : Nat} (h0 : 0 < v) (h : v ≤ n) : LitOK n (v : Int) :=
  ⟨by omega, by simpa using h⟩

theorem LitOK.neg {n : Nat} {l : Int} (h : LitOK n l) : LitOK n (-l) :=
  ⟨Int.neg_ne_zero.2 h.1, by rw [Int.natAbs_neg]; exact h.2⟩

theorem LitOK.agree {n : Nat} {σ τ : Assign} {l : Int} (hl : LitOK n l) (h : Agree n σ τ) :
    σ l.natAbs = τ l.natAbs :=
  h _ (Int.natAbs_pos.2 hl.1) hl.2

theorem LitOK.litVal_congr {n : Nat} {σ τ : Assign} {l : Int} (hl : LitOK n l) (h : Agree n σ τ) :
    litVal σ l = litVal τ l :=
  litVal_congr_on (hl.agree h)

theorem litCount_eq_countP (τ : Assign) (xs : List Int) : litCount τ xs = xs.countP (litVal τ) :=
  List.countP_eq_length_filter.symm

theorem litCount_cons (τ : Assign) (x : Int) (l : List Int) :
    litCount τ (x :: l) = (litVal τ x).toNat + litCount τ l := by
  rw [litCount_eq_countP, litCount_eq_countP, List.countP_cons, Nat.add_comm]
  cases litVal τ x <;> rfl

theorem litCount_append (τ : Assign) (l₁ l₂ : List Int) :
    litCount τ (l₁ ++ l₂) = litCount τ l₁ + litCount τ l₂ := by
  simp only [litCount_eq_countP, List.countP_append]

theorem litCount_eq_zero (τ : Assign) (l : List Int) (h : ∀ x ∈ l, litVal τ x = false) :
    litCount τ l = 0 := by
  rw [litCount_eq_countP, List.countP_eq_zero]
  exact fun x hx => by rw [h x hx]; exact Bool.false_ne_true

theorem litCount_le (τ : Assign) (l : List Int) : litCount τ l ≤ l.length :=
  List.length_filter_le _ _

theorem litCount_congr {n : Nat} {σ τ : Assign} {xs : List Int} (hx : ∀ x ∈ xs, LitOK n x)
    (h : Agree n σ τ) : litCount σ xs = litCount τ xs :=
  congrArg List.length (List.filter_congr fun x hxm => (hx x hxm).litVal_congr h)

/-- The value a gate item assigns to its output (a dummy `false` for the two assertions). -/
def Item.eval (τ : Assign) : Item → Bool
  | .and2 _ a b   => litVal τ a && litVal τ b
  | .xor2 _ a b   => litVal τ a != litVal τ b
  | .maj3 _ a b c => (litVal τ a && litVal τ b) || (litVal τ a && litVal τ c) || (litVal τ b && litVal τ c)
  | .xor3 _ a b c => (litVal τ a != litVal τ b) != litVal τ c
  | .or2 _ a b    => litVal τ a || litVal τ b
  | .or3 _ a b c  => litVal τ a || litVal τ b || litVal τ c
  | .notg _ a     => !(litVal τ a)
  | .const _ v    => v
  | .unit _       => false
  | .raw _        => false

theorem Item.holds_of_out {τ : Assign} {it : Item} {o : Nat} (h : it.out = some o) :
    it.holds τ = (τ o == it.eval τ) := by
  cases it <;> cases h <;> rfl

theorem Item.eval_congr {n : Nat} {σ τ : Assign} {it : Item} (hi : ∀ l ∈ it.ins, LitOK n l)
    (h : Agree n σ τ) : it.eval σ = it.eval τ := by
  have hv : ∀ l ∈ it.ins, litVal σ l = litVal τ l := fun l hl => (hi l hl).litVal_congr h
  cases it
  all_goals
    simp only [Item.ins, List.forall_mem_cons] at hv
    simp only [Item.eval, hv]

/-- For a gate, both sides unfold to Booleans over `τ o` and the values of the input literals
    (`-l` has the negated value of `l`, as literals are non-zero); what is left is the truth
    table of the gate, closed once per arity. -/
theorem Item.sat_eq_holds (τ : Assign) (it : Item) (ho : ∀ o, it.out = some o → 0 < o)
    (hi : ∀ l ∈ it.ins, l ≠ 0) : cnfSat τ it.clauses = it.holds τ := by
  cases it
  case unit l => exact (Bool.and_true _).trans (Bool.or_false _)
  case raw c => exact Bool.and_true _
  all_goals
    replace ho := ho _ rfl
    simp only [Item.ins, List.forall_mem_cons] at hi
    dsimp only [Item.clauses, Item.holds, cnfSat, clauseSat, List.all, List.any]
    simp only [litVal_neg, litVal_natCast, litVal_neg_natCast, hi, ho, ne_eq, not_false_eq_true,
      apply_ite (litVal τ)]
  case and2 o a b | xor2 o a b | or2 o a b =>
    generalize τ o = O, litVal τ a = A, litVal τ b = B; decide +revert
  case maj3 o a b c | xor3 o a b c | or3 o a b c =>
    generalize τ o = O, litVal τ a = A, litVal τ b = B, litVal τ c = C; decide +revert
  case notg o a => generalize τ o = O, litVal τ a = A; decide +revert
  case const o v => generalize τ o = O; decide +revert

theorem Chain.nil (n : Nat) : Chain n [] n := rfl

theorem Chain.cons_gate {n m : Nat} {it : Item} {rest : List Item} (ho : it.out = some (n + 1))
    (hi : ∀ l ∈ it.ins, LitOK n l) (h : Chain (n + 1) rest m) : Chain n (it :: rest) m := by
  simp only [Chain, ho, true_and]; exact ⟨hi, h⟩

theorem Chain.cons_assert {n m : Nat} {it : Item} {rest : List Item} (ho : it.out = none)
    (hi : ∀ l ∈ it.ins, LitOK n l) (h : Chain n rest m) : Chain n (it :: rest) m := by
  simp only [Chain, ho]; exact ⟨hi, h⟩

theorem Chain.ind {m : Nat} {motive : Nat → List Item → Prop} (nil : motive m [])
    (gate : ∀ n it rest, it.out = some (n + 1) → (∀ l ∈ it.ins, LitOK n l) →
      Chain (n + 1) rest m → motive (n + 1) rest → motive n (it :: rest))
    (assert : ∀ n it rest, it.out = none → (∀ l ∈ it.ins, LitOK n l) →
      Chain n rest m → motive n rest → motive n (it :: rest))
    {l : List Item} {n : Nat} (h : Chain n l m) : motive n l := by
  induction l generalizing n with
  | nil => exact (show n = m from h) ▸ nil
  | cons it rest ih =>
    obtain ⟨h1, h2⟩ := (show _ ∧ _ from h)
    cases ho : it.out with
    | none => rw [ho] at h2; exact assert n it rest ho h1 h2 (ih h2)
    | some o =>
      rw [ho] at h2
      obtain ⟨rfl, h2⟩ := h2
      exact gate n it rest ho h1 h2 (ih h2)

theorem Chain.le {l : List Item} {n m : Nat} (h : Chain n l m) : n ≤ m :=
  Chain.ind (motive := fun n _ => n ≤ m) (Nat.le_refl m)
    (fun _ _ _ _ _ _ ih => Nat.le_of_succ_le ih) (fun _ _ _ _ _ _ ih => ih) h

theorem Chain.append : ∀ {l₁ l₂ : List Item} {n m k : Nat},
    Chain n l₁ m → Chain m l₂ k → Chain n (l₁ ++ l₂) k :=
  fun {_ l₂ _ _ k} h1 h2 => Chain.ind (motive := fun n l₁ => Chain n (l₁ ++ l₂) k) h2
    (fun _ _ _ ho hi _ ih => Chain.cons_gate ho hi ih)
    (fun _ _ _ ho hi _ ih => Chain.cons_assert ho hi ih) h1

theorem Chain.of_gates (its : List Item) (n : Nat)
    (h : ∀ i (hi : i < its.length), its[i].out = some (n + 1 + i) ∧ ∀ l ∈ its[i].ins, LitOK (n + i) l) :
    Chain n its (n + its.length) := by
  induction its generalizing n with
  | nil => exact Chain.nil n
  | cons it rest ih =>
    have ih := ih (n + 1) fun i hi => by
      rw [Nat.add_assoc (n + 1) 1 i, Nat.add_assoc n 1 i, Nat.add_comm 1 i]
      exact h (i + 1) (Nat.succ_lt_succ hi)
    rw [Nat.add_right_comm] at ih
    exact Chain.cons_gate (h 0 (Nat.succ_pos _)).1 (h 0 (Nat.succ_pos _)).2 ih

theorem Chain.defines {l : List Item} {n m : Nat} (h : Chain n l m) :
    Defines (n + 1) (m + 1) fun τ => ∀ it ∈ l, it.out ≠ none → it.holds τ = true := by
  refine Chain.ind (motive := fun n l => Defines (n + 1) (m + 1) fun τ =>
    ∀ it ∈ l, it.out ≠ none → it.holds τ = true) (.nil fun _ _ h => nomatch h) ?_ ?_ h
  · intro n it rest ho hi _ ih
    refine ((Defines.var (val := it.eval) (Nat.succ_pos n) fun ha =>
      Item.eval_congr hi (agreeBelow_succ.1 ha)).seq ih).congr fun τ => ?_
    rw [List.forall_mem_cons, Item.holds_of_out ho, beq_iff_eq]
    exact and_congr_left' ⟨fun h => h (ho ▸ Option.some_ne_none _), fun h _ => h⟩
  · intro n it rest ho _ _ ih
    exact ih.congr fun τ => List.forall_mem_cons.trans ⟨And.right, .intro fun hne => absurd ho hne⟩

namespace Builder

/-- `b'` extends `b` by gate items only. -/
def GExt (b b' : Builder) : Prop :=
  ∃ new : List Item, b'.items = new ++ b.items ∧ Chain b.nvars new.reverse b'.nvars ∧
    ∀ it ∈ new, it.out ≠ none

theorem GExt.toExt {b b' : Builder} (h : GExt b b') : Ext b b' := by
  obtain ⟨new, h1, h2, _⟩ := h
  exact ⟨new, h1, h2⟩

theorem Ext.refl (b : Builder) : Ext b b := ⟨[], rfl, Chain.nil _⟩

theorem GExt.refl (b : Builder) : GExt b b := ⟨[], rfl, Chain.nil _, fun _ h => nomatch h⟩

theorem Ext.trans {b₁ b₂ b₃ : Builder} (h : Ext b₁ b₂) (h' : Ext b₂ b₃) : Ext b₁ b₃ := by
  obtain ⟨n1, e1, c1⟩ := h
  obtain ⟨n2, e2, c2⟩ := h'
  refine ⟨n2 ++ n1, by rw [e2, e1, List.append_assoc], ?_⟩
  rw [List.reverse_append]
  exact c1.append c2

theorem GExt.trans {b₁ b₂ b₃ : Builder} (h : GExt b₁ b₂) (h' : GExt b₂ b₃) : GExt b₁ b₃ := by
  obtain ⟨n1, e1, c1, g1⟩ := h
  obtain ⟨n2, e2, c2, g2⟩ := h'
  refine ⟨n2 ++ n1, by rw [e2, e1, List.append_assoc], ?_,
    fun it hm => (List.mem_append.1 hm).elim (g2 it) (g1 it)⟩
  rw [List.reverse_append]
  exact c1.append c2

theorem Ext.le {b b' : Builder} (h : Ext b b') : b.nvars ≤ b'.nvars := by
  obtain ⟨_, _, c⟩ := h
  exact c.le

theorem Holds.fresh (τ : Assign) (n : Nat) : Holds τ (fromFresh n) := fun _ h => nomatch h

theorem Ext.holds {b b' : Builder} (h : Ext b b') {τ : Assign} (hτ : Holds τ b') : Holds τ b := by
  obtain ⟨_, e, _⟩ := h
  exact fun it hm => hτ it (e ▸ List.mem_append_right _ hm)

theorem GExt.gate (b : Builder) (it : Item) (ho : it.out = some (b.nvars + 1))
    (hi : ∀ l ∈ it.ins, LitOK b.nvars l) :
    GExt b { nvars := b.nvars + 1, items := it :: b.items } :=
  ⟨[it], rfl, Chain.cons_gate ho hi (Chain.nil _), by simp [ho]⟩

theorem Ext.assert (b : Builder) (it : Item) (ho : it.out = none)
    (hi : ∀ l ∈ it.ins, LitOK b.nvars l) : Ext b (b.emit it) :=
  ⟨[it], rfl, Chain.cons_assert ho hi (Chain.nil _)⟩

theorem Ext.agree_of_holds {b b' : Builder} (h : Ext b b') {τ₁ τ₂ : Assign}
    (h₁ : Holds τ₁ b') (h₂ : Holds τ₂ b') (ha : Agree b.nvars τ₁ τ₂) : Agree b'.nvars τ₁ τ₂ := by
  obtain ⟨new, e, c⟩ := h
  have hm : ∀ {ρ : Assign}, Holds ρ b' → ∀ it ∈ new.reverse, it.out ≠ none → it.holds ρ = true :=
    fun hρ it hm _ => hρ it (e ▸ List.mem_append_left _ (List.mem_reverse.1 hm))
  exact agreeBelow_succ.1 (c.defines.uniq (hm h₁) (hm h₂) (agreeBelow_succ.2 ha))

theorem Ext.unique {n : Nat} {b : Builder} (h : Ext (fromFresh n) b) {τ₁ τ₂ : Assign}
    (h₁ : Holds τ₁ b) (h₂ : Holds τ₂ b) (ha : Agree n τ₁ τ₂) : Agree b.nvars τ₁ τ₂ :=
  h.agree_of_holds h₁ h₂ ha

theorem newItems_eq {b b' : Builder} {new : List Item} (h : b'.items = new ++ b.items) :
    newItems b b' = new := by
  simp [newItems, h]

theorem foldl_emit {α : Type} (f : α → Item) (l : List α) (b : Builder) :
    l.foldl (fun b x => b.emit (f x)) b = { nvars := b.nvars, items := (l.map f).reverse ++ b.items } := by
  induction l generalizing b with
  | nil => rfl
  | cons x l ih =>
    rw [List.foldl_cons, ih (b.emit (f x))]
    simp [emit]

theorem Ext.emit_units (us : List Int) (b : Builder) (h : ∀ l ∈ us, LitOK b.nvars l) :
    Ext b (us.foldl (fun b l => b.emit (.unit l)) b) := by
  induction us generalizing b with
  | nil => exact Ext.refl b
  | cons u us ih =>
    exact (Ext.assert b (.unit u) rfl fun _ hl => List.mem_singleton.1 hl ▸ h u (.head _)).trans
      (ih _ fun l hl => h l (.tail _ hl))

theorem holds_emit_units {τ : Assign} {b : Builder} {us : List Int} :
    Holds τ (us.foldl (fun b l => b.emit (.unit l)) b) ↔
      Holds τ b ∧ ∀ l ∈ us, litVal τ l = true := by
  rw [foldl_emit, and_comm]
  refine List.forall_mem_append.trans (and_congr_left' ?_)
  simp only [List.mem_reverse, List.forall_mem_map]
  rfl

end Builder

end SPModel
