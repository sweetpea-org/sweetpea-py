/- Arithmetic of the saturating representation and of the two's-complement comparison, over plain
   natural numbers: the radix `Q` stands for `2 ^ (s - 1)`. -/

namespace SPModel.Arith

/-- What a saturating counter with top digit worth `Q` stores for a count `c`; `satRepr s c` of
    `Card/Sem.lean` unfolds to `satQ (2 ^ (s - 1)) c`, and the lemmas below are applied to it as they stand. -/
def satQ (Q c : Nat) : Nat := c % Q + if Q ≤ c then Q else 0

theorem satQ_of_lt {Q c : Nat} (hc : c < 2 * Q) : satQ Q c = c := by
  unfold satQ
  by_cases h : Q ≤ c
  · rw [if_pos h, Nat.mod_eq_sub_mod h, Nat.mod_eq_of_lt (by omega)]
    omega
  · rw [if_neg h, Nat.mod_eq_of_lt (by omega)]
    rfl

theorem satQ_cmp {Q c k : Nat} (hk : k < Q) :
    (satQ Q c = k ↔ c = k) ∧ (satQ Q c < k ↔ c < k) ∧ (k < satQ Q c ↔ k < c) := by
  by_cases hc : c < Q
  · rw [satQ_of_lt (by omega)]
    exact ⟨.rfl, .rfl, .rfl⟩
  · have : Q ≤ satQ Q c := by
      unfold satQ
      rw [if_pos (by omega)]
      omega
    omega

/-- `satQ Q` respects addition, as `% Q` does. -/
theorem satQ_add_left (Q a b : Nat) : satQ Q (satQ Q a + b) = satQ Q (a + b) := by
  by_cases h : Q ≤ a
  · unfold satQ
    rw [if_pos h, if_pos (by omega : Q ≤ a % Q + Q + b), if_pos (by omega : Q ≤ a + b),
      Nat.add_right_comm, Nat.add_mod_right, Nat.mod_add_mod]
  · rw [satQ_of_lt (c := a) (by omega)]

theorem satQ_mul_add {Q S : Nat} (k : Nat) (hS : S < Q) :
    satQ Q (k * Q + S) = (if k = 0 then 0 else Q) + S := by
  unfold satQ
  rw [Nat.mul_add_mod_self_right, Nat.mod_eq_of_lt hS, Nat.add_comm]
  cases k with
  | zero => simp; omega
  | succ k => rw [if_pos (by rw [Nat.succ_mul]; omega)]; rfl

/-- The top position of a saturating adder: below it `S` and `carry` are the sum of `X` and `Y`;
    the output's top bit is the disjunction of the operands' top bits and the carry. -/
theorem satQ_top {Q X Y S : Nat} (tx ty carry : Bool) (hS : S < Q)
    (hadd : S + Q * carry.toNat = X + Y) :
    (tx || ty || carry).toNat * Q + S = satQ Q (tx.toNat * Q + X + (ty.toNat * Q + Y)) := by
  have : tx.toNat * Q + X + (ty.toNat * Q + Y) = (tx.toNat + ty.toNat + carry.toNat) * Q + S := by
    rw [Nat.add_mul, Nat.add_mul, Nat.mul_comm carry.toNat]
    omega
  rw [this, satQ_mul_add _ hS]
  cases tx <;> cases ty <;> cases carry <;> simp

/-- The difference of `A` and `B` fits into a signed number with sign bit worth `Q`:
    `-Q ≤ A - B < Q`. -/
def Fits (Q A B : Nat) : Prop := B ≤ A + Q ∧ A < B + Q

theorem diff_fits {Q A B : Nat} (hA : A < Q) (hB : B < Q) : Fits Q A B :=
  ⟨Nat.le_add_left_of_le (Nat.le_of_lt hB), Nat.lt_add_left _ hA⟩

/-- The top bit `t` of the sum `A + N`, where `N` is the two's complement of `B` modulo `2Q`
    (`c1`, `c2` are the dropped carries), says `A < B` as long as the difference fits. -/
theorem cmp_top {Q A B N R : Nat} (c1 c2 t : Bool) (hR : R < Q)
    (hneg : c1.toNat * (2 * Q) + N + B = 2 * Q)
    (hsum : c2.toNat * (2 * Q) + (t.toNat * Q + R) = A + N)
    (hsafe : Fits Q A B) : t = true ↔ A < B := by
  unfold Fits at hsafe
  have hK : c1.toNat * (2 * Q) + c2.toNat * (2 * Q) = 0 ∨
      2 * Q ≤ c1.toNat * (2 * Q) + c2.toNat * (2 * Q) := by
    cases c1 <;> cases c2 <;> simp
  generalize c1.toNat * (2 * Q) = K1 at *
  generalize c2.toNat * (2 * Q) = K2 at *
  cases t <;> simp at hsum ⊢ <;> omega

/-- One position of a ripple-carry addition: `e₁` is its full adder, `e₂` the higher positions
    at weight `P`. -/
theorem ripple_step {c s x y ci S P oc F G : Nat} (e₁ : 2 * c + s = x + y + ci)
    (e₂ : S + P * oc = F + G + c) : s + 2 * S + P * 2 * oc = x + 2 * F + (y + 2 * G) + ci := by
  rw [Nat.mul_right_comm]
  omega

end SPModel.Arith
