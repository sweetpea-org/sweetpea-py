/- `_make_same_length`, `_convert_to_negative_twos_complement`, `_inequality_assertion`. -/
import SPProofs.Card.AssertEq

namespace SPModel
open Builder
namespace Builder

/-- `_inequality_assertion` once it has fixed its fresh `k_vars` to the digits `vs` of `k`. -/
def kBlock (b : Builder) (vs : List Bool) : Builder :=
  ((b.freshN vs.length).1.zip vs).foldl
      (fun b (p : Nat × Bool) => b.emit (.const p.1 p.2)) (b.freshN vs.length).2

/-- With `castL_def`, folds what unfolding `inequalityAssertion` leaves back into the names the
    lemmas speak of (comparing the unfolded terms is slow). -/
theorem kBlock_def (b : Builder) (vs : List Bool) :
    ((b.freshN vs.length).1.zip vs).foldl (fun b (p : Nat × Bool) => b.emit (.const p.1 p.2))
      (b.freshN vs.length).2 = kBlock b vs := rfl

theorem kBlock_run (b : Builder) (vs : List Bool) :
    Run b (kBlock b vs) (castL (b.freshN vs.length).1)
      (fun τ => (castL (b.freshN vs.length).1).map (litVal τ) = vs) := by
  have r := Run.block b (((b.freshN vs.length).1.zip vs).map (fun p => Item.const p.1 p.2))
    (by intro i hi; simp [Item.out, Item.ins])
  simp only [List.length_map, List.length_zip, freshN_fst_length, Nat.min_self] at r
  rw [kBlock, foldl_emit (fun (p : Nat × Bool) => Item.const p.1 p.2)]
  refine r.imp (fun τ h => ?_)
  rw [h, List.map_map]
  exact List.map_snd_zip (by simp)

theorem makeSameLength_run (b : Builder) (xs ys : List Int)
    (hx : ∀ x ∈ xs, LitOK b.nvars x) (hy : ∀ y ∈ ys, LitOK b.nvars y) :
    Run b (b.makeSameLength xs ys).2 ((b.makeSameLength xs ys).1.1 ++ (b.makeSameLength xs ys).1.2)
      (fun τ => bitsVal τ (b.makeSameLength xs ys).1.1 = bitsVal τ xs ∧
        bitsVal τ (b.makeSameLength xs ys).1.2 = bitsVal τ ys) := by
  have hxy : ∀ l ∈ xs ++ ys, LitOK b.nvars l := fun l hl => (List.mem_append.1 hl).elim (hx l) (hy l)
  have pad := fun k => (freshZero_run b k).seq (freshZero_run _ 1)
  unfold makeSameLength
  rcases Nat.lt_trichotomy xs.length ys.length with h | h | h
  · rw [if_neg (Nat.ne_of_lt h), if_pos h]
    refine (pad _).mono (fun l hl => ?_)
      (fun τ z => ⟨bitsVal_zero_pad τ _ xs z.1, bitsVal_zero_pad τ _ ys z.2⟩)
    simp only [List.mem_append] at hl ⊢
    exact hl.elim (·.elim (.inl ∘ .inl) (.inr ∘ hx l)) (·.elim (.inl ∘ .inr) (.inr ∘ hy l))
  · rw [if_pos h]
    exact Run.refl b hxy fun _ => ⟨rfl, rfl⟩
  · rw [if_neg (Nat.ne_of_gt h), if_neg (Nat.lt_asymm h)]
    refine (pad _).mono (fun l hl => ?_)
      (fun τ z => ⟨bitsVal_zero_pad τ _ xs z.2, bitsVal_zero_pad τ _ ys z.1⟩)
    simp only [List.mem_append] at hl ⊢
    exact hl.elim (·.elim (.inl ∘ .inr) (.inr ∘ hx l)) (·.elim (.inl ∘ .inl) (.inr ∘ hy l))

theorem makeSameLength_length (b : Builder) (xs ys : List Int) :
    (b.makeSameLength xs ys).1.1.length = (b.makeSameLength xs ys).1.2.length ∧
    (b.makeSameLength xs ys).1.1.length
      = if xs.length = ys.length then xs.length else max xs.length ys.length + 1 := by
  unfold makeSameLength
  split
  · exact ⟨‹_›, rfl⟩
  split <;> simp only [List.length_append, freshN_fst_length, List.length_map] <;> omega

/-- `_convert_to_negative_twos_complement` after the `flipped ⇔ ¬bit` gates. -/
def flipBlock (b : Builder) (bits : List Int) : Builder :=
  { nvars := b.nvars + bits.length,
    items := (((b.freshN bits.length).1.zip bits).map (fun p => Item.notg p.1 p.2)).reverse ++ b.items }

/-- Its next step, the constant `0…01` of width `m + 1`: `m` zeroed variables and a one. -/
def oneBlock (b : Builder) (m : Nat) : Builder :=
  { nvars := b.nvars + (m + 1),
    items := .const (b.nvars + 1 + m) true ::
      ((b.freshN m).1.map (fun v => Item.const v false)).reverse ++ b.items }

theorem negTwosComplement_eq (b : Builder) (bits : List Int) (m : Nat) (hW : bits.length = m + 1) :
    b.negTwosComplement bits =
      .ok (((oneBlock (flipBlock b bits) m).rippleCarry (castL (b.freshN (m + 1)).1)
              (castL ((flipBlock b bits).freshN (m + 1)).1)).1.2.reverse,
           ((oneBlock (flipBlock b bits) m).rippleCarry (castL (b.freshN (m + 1)).1)
              (castL ((flipBlock b bits).freshN (m + 1)).1)).2) := by
  simp only [negTwosComplement, foldl_emit (fun (p : Nat × Int) => Item.notg p.1 p.2), freshN_snd,
    hW, freshN_reverse_succ, List.reverse_reverse, zeroOut_eq, castL_def]
  simp only [emit, oneBlock, flipBlock, hW, List.cons_append]

theorem flipBlock_run (b : Builder) (bits : List Int) (hb : ∀ x ∈ bits, LitOK b.nvars x) :
    Run b (flipBlock b bits) (castL (b.freshN bits.length).1) (fun τ =>
      bitsVal τ (castL (b.freshN bits.length).1) + bitsVal τ bits + 1 = 2 ^ bits.length) := by
  have r := Run.block b (((b.freshN bits.length).1.zip bits).map (fun p => Item.notg p.1 p.2))
    (by intro i hi
        simp only [List.getElem_map, List.getElem_zip, freshN_fst_getElem, Item.out, Item.ins,
          List.mem_singleton, forall_eq, true_and]
        exact hb _ (List.getElem_mem _))
  simp only [List.length_map, List.length_zip, freshN_fst_length, Nat.min_self] at r
  refine r.imp (fun τ h => ?_)
  rw [bitsVal_eq, bitsVal_eq, h, List.map_map]
  show bval (List.map (not ∘ litVal τ ∘ Prod.snd) _) + _ + 1 = _
  rw [← List.map_map, ← List.map_map, List.map_snd_zip (by simp)]
  simpa using bval_not (bits.map (litVal τ))

theorem oneBlock_run (b : Builder) (m : Nat) :
    Run b (oneBlock b m) (castL (b.freshN (m + 1)).1)
      (fun τ => bitsVal τ (castL (b.freshN (m + 1)).1) = 1) := by
  have r₀ := freshZero_run b m
  rw [zeroOut_eq] at r₀
  have r := r₀.seq_gate (.const (b.nvars + 1 + m) true) (congrArg some (Nat.add_right_comm ..))
    (fun _ h => nomatch h)
  rw [show castL (b.freshN (m + 1)).1 = castL (b.freshN m).1 ++ [((b.nvars + m + 1 : Nat) : Int)]
    by simp [castL, freshN, List.range_succ, Nat.add_right_comm]]
  refine r.imp fun τ h => ?_
  have h1 : litVal τ ((b.nvars + m + 1 : Nat) : Int) = true := h.2
  rw [bitsVal_append, bitsVal_eq_zero τ _ h.1, bitsVal_cons, h1]
  rfl

theorem negTwosComplement_run (b : Builder) (bits : List Int) (hb : ∀ x ∈ bits, LitOK b.nvars x) (m : Nat)
    (hW : bits.length = m + 1) :
    ∃ neg b', b.negTwosComplement bits = .ok (neg, b') ∧ neg.length = bits.length ∧
      Run b b' neg (fun τ => ∃ c : Bool,
        c.toNat * 2 ^ bits.length + bitsVal τ neg + bitsVal τ bits = 2 ^ bits.length) := by
  have r₂ := flipBlock_run b bits hb
  have r₅ := oneBlock_run (flipBlock b bits) m
  rw [hW] at r₂
  obtain ⟨c, ss, b6, heq, hl, r₆⟩ :=
    rippleCarry_run (oneBlock (flipBlock b bits) m) (castL (b.freshN (m + 1)).1)
      (castL ((flipBlock b bits).freshN (m + 1)).1) (fun l hl => r₅.lift (r₂.lits l hl)) r₅.lits
      (by simp) (by simp)
  refine ⟨ss.reverse, b6, ?_, by simp [hl, hW], ((r₂.seq r₅).seq r₆).mono
    (fun l h => .inl (List.mem_append_right _ (List.mem_cons_of_mem _ (List.mem_reverse.1 h))))
    (fun τ ⟨⟨e₂, e₅⟩, e₆⟩ => ⟨litVal τ c, ?_⟩)⟩
  · rw [negTwosComplement_eq b bits m hW]
    exact congrArg (fun p => Except.ok (p.1.2.reverse, p.2)) heq
  · rw [bitsVal_cons, e₅, List.length_reverse, hl, castL_length, freshN_fst_length] at e₆
    rw [hW, e₆, Nat.add_right_comm]
    exact e₂

/-- The end of `_inequality_assertion`: asserts the top bit of `kbs` plus the two's complement
    of `nbs`, the sign of `kbs - nbs` if that fits (`Arith.cmp_top`). -/
def cmpTail (b4 : Builder) (kbs nbs : List Int) : Except PyErr Builder :=
  match negTwosComplement b4 nbs with
  | .error e => .error e
  | .ok (neg, b5) =>
    match ((rippleCarry b5 kbs neg).1.2).reverse with
    | [] => .error .indexError
    | top :: _ => .ok ((rippleCarry b5 kbs neg).2.emit (.unit top))

theorem cmpTail_spec {b b4 : Builder} (hc : Closed b) (g : GExt b b4) (kbs nbs : List Int) (m : Nat)
    (hk : ∀ x ∈ kbs, LitOK b4.nvars x) (hn : ∀ x ∈ nbs, LitOK b4.nvars x)
    (hlen : kbs.length = nbs.length) (hm : nbs.length = m + 1) (P : Assign → Prop)
    (hPc : ∀ σ τ, Agree b.nvars σ τ → (P σ ↔ P τ))
    (hP : ∀ τ, Holds τ b4 → (bitsVal τ kbs < bitsVal τ nbs ↔ P τ) ∧
      Arith.Fits (2 ^ m) (bitsVal τ kbs) (bitsVal τ nbs)) :
    ReqSpec b (cmpTail b4 kbs nbs) P := by
  obtain ⟨neg, b5, heq, hnl, r₅⟩ := negTwosComplement_run b4 nbs hn m hm
  obtain ⟨c, ss, b6, heq2, hsl, r₆⟩ := rippleCarry_run b5 kbs neg (fun x hx => r₅.lift (hk x hx))
    r₅.lits (hlen.trans hnl.symm) (Nat.lt_of_lt_of_eq (Nat.succ_pos m) (hlen.trans hm).symm)
  have hrl : ss.reverse.length = m + 1 := by rw [List.length_reverse, hsl, hlen, hm]
  obtain ⟨top, rest, hrev⟩ := List.exists_cons_of_length_eq_add_one hrl
  rw [hrev] at hrl
  have r := r₅.seq r₆
  rw [show cmpTail b4 kbs nbs = .ok (b6.emit (.unit top)) by simp only [cmpTail, heq, heq2, hrev]]
  refine gates_then_units hc (g.trans r.gext) [top] (fun l hl => List.mem_singleton.1 hl ▸
      r.lits top (by simp [← List.mem_reverse (as := ss), hrev])) P (fun τ hτ => ?_) hPc
  obtain ⟨⟨c1, hc1⟩, e⟩ := r.sem τ hτ
  obtain ⟨hiff, hfit⟩ := hP τ (r.ext.holds hτ)
  have hR := bitsVal_lt τ rest
  rw [Nat.succ.inj hrl] at hR
  rw [hrev, bitsVal_cons, bitsVal_cons, List.length_cons, Nat.succ.inj hrl, Nat.pow_succ,
    Nat.mul_comm _ 2] at e
  rw [hm, Nat.pow_succ, Nat.mul_comm _ 2] at hc1
  simp only [List.mem_singleton, forall_eq, ← hiff]
  exact Arith.cmp_top c1 (litVal τ c) (litVal τ top) hR hc1 e hfit

/-- The comparison is exact: `L` is the width of `k`, `W` that of the count, `m + 1` the common
    width after `_make_same_length`.  Equal widths `L = W` occur only for `< k` with
    `k = len = 2^p`. -/
theorem ineq_safe {L W p len k : Nat} (lt : Bool) (hlenp : len ≤ 2 ^ p)
    (hW : W = min (p + 1) (L + 1)) (hkL : k < 2 ^ L) (hkge : ∀ j, L = j + 1 → 2 ^ j ≤ k)
    (hk1 : lt = true → k ≤ len) (hL2 : lt = false → L ≤ p) :
    ∃ m, (if L = W then L else max L W + 1) = m + 1 ∧
      ∀ S c, c ≤ len → S < 2 ^ W → (W < L + 1 → S = c) →
        if lt then Arith.Fits (2 ^ m) S k else Arith.Fits (2 ^ m) k S := by
  by_cases hLW : L = W
  · obtain rfl : L = p + 1 := by omega
    refine ⟨p, if_pos hLW, fun S c hc _ hex => ?_⟩
    cases lt with
    | false => exact absurd (hL2 rfl) (Nat.not_succ_le_self p)
    | true =>
      -- `S = c ≤ len ≤ 2 ^ p ≤ k ≤ len`
      have hS : S ≤ 2 ^ p := hex (hLW ▸ Nat.lt_succ_self _) ▸ Nat.le_trans hc hlenp
      exact ⟨Nat.le_add_left_of_le (Nat.le_trans (hk1 rfl) hlenp), Nat.lt_of_le_of_lt hS
        (Nat.lt_add_of_pos_left (Nat.lt_of_lt_of_le (Nat.two_pow_pos p) (hkge p rfl)))⟩
  · refine ⟨max L W, if_neg hLW, fun S _ _ hS _ => ?_⟩
    have h1 := Nat.lt_of_lt_of_le hkL (Nat.pow_le_pow_right Nat.two_pos (Nat.le_max_left L W))
    have h2 := Nat.lt_of_lt_of_le hS (Nat.pow_le_pow_right Nat.two_pos (Nat.le_max_right L W))
    cases lt
    · exact Arith.diff_fits h1 h2
    · exact Arith.diff_fits h2 h1

theorem inequalityAssertion_spec (b : Builder) (hc : Closed b) (lt : Bool) (k : Nat) (xs : List Int)
    (hne : xs ≠ []) (hx : ∀ x ∈ xs, LitOK b.nvars x) :
    ReqSpec b (b.inequalityAssertion lt k xs)
      (fun τ => if lt then litCount τ xs < k else k < litCount τ xs) := by
  obtain ⟨x0, xs', rfl⟩ := List.exists_cons_of_ne_nil hne
  have hcnt := fun τ => litCount_le τ (x0 :: xs')
  by_cases h1 : lt = true ∧ k > (x0 :: xs').length
  · obtain ⟨rfl, h1⟩ := h1
    rw [inequalityAssertion, Bool.true_and, if_pos (decide_eq_true h1)]
    exact ReqSpec.trivial b _ fun τ => Nat.lt_of_le_of_lt (hcnt τ) h1
  by_cases h2 : lt = false ∧ k ≥ (x0 :: xs').length
  · obtain ⟨rfl, h2⟩ := h2
    rw [inequalityAssertion, Bool.false_and, if_neg Bool.false_ne_true, Bool.not_false, Bool.true_and,
      if_pos (decide_eq_true h2)]
    exact contradiction_spec b hc x0 (hx x0 (.head _)) _ fun τ =>
      Nat.not_lt.2 (Nat.le_trans (hcnt τ) h2)
  have hk1 : lt = true → k ≤ (x0 :: xs').length := fun h => Nat.le_of_not_lt fun h' => h1 ⟨h, h'⟩
  have hk2 : lt = false → k < (x0 :: xs').length := fun h => Nat.lt_of_not_le fun h' => h2 ⟨h, h'⟩
  obtain ⟨sumBits, b1, heq, hlen1, r₁⟩ :=
    popCount_run b (x0 :: xs') ((intToBinary k).length + 1) hx (List.cons_ne_nil _ _)
  simp only [inequalityAssertion, Bool.and_eq_true, decide_eq_true_eq, Bool.not_eq_true', h1, h2,
    if_false, heq, castL_def, kBlock_def]
  have hp := le_two_pow_clog2 (x0 :: xs').length
  generalize clog2 (x0 :: xs').length = p at *
  have rk := kBlock_run b1 (intToBinary k)
  have hkL := intToBinary_lt k
  have hkge := intToBinary_ge k
  have hL2 : lt = false → (intToBinary k).length ≤ p := fun h =>
    intToBinary_len_le (Nat.lt_of_lt_of_le (hk2 h) hp)
  have hval := intToBinary_val k
  generalize hLdef : (intToBinary k).length = L at *
  have r₄ := makeSameLength_run (kBlock b1 (intToBinary k)) (castL (b1.freshN L).1) sumBits
    rk.lits (fun l hl => rk.lift (r₁.lits l hl))
  obtain ⟨hle4, hw4⟩ :=
    makeSameLength_length (kBlock b1 (intToBinary k)) (castL (b1.freshN L).1) sumBits
  generalize (kBlock b1 (intToBinary k)).makeSameLength (castL (b1.freshN L).1) sumBits = M
    at r₄ hle4 hw4 ⊢
  obtain ⟨⟨kv', sb'⟩, b4⟩ := M
  simp only [castL_length, freshN_fst_length] at hw4
  obtain ⟨m, hm, hfit⟩ :=
    ineq_safe lt hp (hlen1.trans (if_neg (Nat.succ_ne_zero L))) hkL hkge hk1 hL2
  have r := (r₁.seq rk).seq r₄
  have hvals : ∀ τ, Holds τ b4 → bitsVal τ kv' = k ∧ bitsVal τ sb' = bitsVal τ sumBits ∧
      (if lt then Arith.Fits (2 ^ m) (bitsVal τ sumBits) k
        else Arith.Fits (2 ^ m) k (bitsVal τ sumBits)) ∧
      bitsVal τ sumBits = stored (L + 1) (litCount τ (x0 :: xs')) := fun τ hτ => by
    obtain ⟨⟨hsum, hk⟩, e1, e2⟩ := r.sem τ hτ
    refine ⟨by rw [e1, bitsVal_eq, hk, hval], e2,
      hfit _ _ (hcnt τ) (bitsVal_lt τ sumBits) (fun hlt => ?_), hsum⟩
    rw [stored_eq_ite hsum, if_pos (Or.inr hlt)]
  have hPc : ∀ σ τ, Agree b.nvars σ τ → litCount σ (x0 :: xs') = litCount τ (x0 :: xs') :=
    fun σ τ ha => litCount_congr hx ha
  have hkv : ∀ x ∈ kv', LitOK b4.nvars x := fun x h => r₄.lits x (List.mem_append_left _ h)
  have hsb : ∀ x ∈ sb', LitOK b4.nvars x := fun x h => r₄.lits x (List.mem_append_right _ h)
  show ReqSpec b (cmpTail b4 _ _) _
  cases lt with
  | true =>
    refine cmpTail_spec hc r.gext sb' kv' m hsb hkv hle4.symm (hw4.trans hm) _
      (fun σ τ ha => by simp only [if_true, hPc σ τ ha]) (fun τ hτ => ?_)
    obtain ⟨e1, e2, hf, hsum⟩ := hvals τ hτ
    rw [e1, e2]
    exact ⟨(stored_cmp hsum hkL).2.1, hf⟩
  | false =>
    refine cmpTail_spec hc r.gext kv' sb' m hkv hsb hle4 (hle4 ▸ hw4.trans hm) _
      (fun σ τ ha => by simp only [Bool.false_eq_true, if_false, hPc σ τ ha]) (fun τ hτ => ?_)
    obtain ⟨e1, e2, hf, hsum⟩ := hvals τ hτ
    rw [e1, e2]
    exact ⟨(stored_cmp hsum hkL).2.2, hf⟩

end Builder
end SPModel
