/- Closed builders (items mention existing variables only): there the clause list means what the
   items mean (`Closed.vals_sat_iff`) and gate-only extensions extend models (`GExt.extend`).
   `ReqSpec`, the shape of specification the cardinality assertions share. -/
import SPProofs.Card.Lemmas

namespace SPModel
open Builder

def Item.ClosedAt (m : Nat) (it : Item) : Prop :=
  (∀ l ∈ it.ins, LitOK m l) ∧ ∀ o, it.out = some o → 0 < o ∧ o ≤ m

theorem Item.ClosedAt.mono {m k : Nat} {it : Item} (h : it.ClosedAt m) (hmk : m ≤ k) :
    it.ClosedAt k :=
  ⟨fun l hl => (h.1 l hl).mono hmk, fun o ho => ⟨(h.2 o ho).1, Nat.le_trans (h.2 o ho).2 hmk⟩⟩

theorem Item.holds_congr {m : Nat} {σ τ : Assign} {it : Item} (hc : it.ClosedAt m)
    (h : Agree m σ τ) : it.holds σ = it.holds τ := by
  cases ho : it.out with
  | some o =>
    rw [Item.holds_of_out ho, Item.holds_of_out ho, Item.eval_congr hc.1 h,
      h o (hc.2 o ho).1 (hc.2 o ho).2]
  | none =>
    cases it <;> cases ho
    · exact (hc.1 _ (.head _)).litVal_congr h
    · exact clauseSat_congr_on fun l hl => (hc.1 l hl).agree h

theorem Chain.closed : ∀ {l : List Item} {n m : Nat}, Chain n l m → ∀ it ∈ l, it.ClosedAt m :=
  fun {_ _ m} h => Chain.ind (motive := fun _ l => ∀ it ∈ l, it.ClosedAt m) (fun _ h => nomatch h)
    (fun n _ _ ho hi hr ih => List.forall_mem_cons.2
      ⟨⟨fun l hl => (hi l hl).mono (Nat.le_of_succ_le hr.le),
        fun _ ho' => by cases ho.symm.trans ho'; exact ⟨Nat.succ_pos n, hr.le⟩⟩, ih⟩)
    (fun _ _ _ ho hi hr ih => List.forall_mem_cons.2
      ⟨⟨fun l hl => (hi l hl).mono hr.le, fun _ ho' => nomatch ho.symm.trans ho'⟩, ih⟩) h

/-- Read as a Boolean check over the clause list, the claim unfolds to one test
    `(±x).natAbs ≤ m` per literal. -/
theorem Item.clause_lits {m : Nat} {it : Item} (hc : it.ClosedAt m) :
    ∀ c ∈ it.clauses, ∀ l ∈ c, l.natAbs ≤ m := by
  have hi : ∀ l ∈ it.ins, l.natAbs ≤ m := fun l hl => (hc.1 l hl).2
  have ho : ∀ o, it.out = some o → o ≤ m := fun o h => (hc.2 o h).2
  suffices h : it.clauses.all (·.all fun l => decide (l.natAbs ≤ m)) = true by
    simpa only [List.all_eq_true, decide_eq_true_eq] using h
  cases it
  case unit | raw =>
    exact (Bool.and_true _).trans (List.all_eq_true.2 fun l hl => decide_eq_true (hi l hl))
  all_goals
    replace ho := ho _ rfl
    simp only [Item.ins, List.forall_mem_cons] at hi
    dsimp only [Item.clauses, List.all]
    simp only [Int.natAbs_neg, Int.natAbs_natCast, apply_ite Int.natAbs, ite_self, hi, ho,
      decide_true, Bool.and_self]

namespace Builder

def Closed (b : Builder) : Prop := ∀ it ∈ b.items, it.ClosedAt b.nvars

theorem Closed.fresh (n : Nat) : Closed (fromFresh n) := fun _ h => nomatch h

theorem Closed.ext {b b' : Builder} (hc : Closed b) (h : Ext b b') : Closed b' := by
  obtain ⟨new, e, c⟩ := h
  intro it hm
  rw [e] at hm
  rcases List.mem_append.1 hm with hm | hm
  · exact c.closed it (List.mem_reverse.2 hm)
  · exact (hc it hm).mono c.le

theorem Closed.holds_congr {b : Builder} (hc : Closed b) {σ τ : Assign}
    (h : Agree b.nvars σ τ) (hσ : Holds σ b) : Holds τ b := by
  intro it hm
  rw [← Item.holds_congr (hc it hm) h]
  exact hσ it hm

theorem GExt.extend {b b' : Builder} (g : GExt b b') (hc : Closed b) {σ : Assign}
    (hσ : Holds σ b) : ∃ τ, Agree b.nvars σ τ ∧ Holds τ b' := by
  obtain ⟨new, e, c, gn⟩ := g
  obtain ⟨τ, ha, hh⟩ := c.defines.ex_agree σ
  rw [agreeBelow_succ] at ha
  refine ⟨τ, ha, fun it hm => ?_⟩
  rw [e] at hm
  rcases List.mem_append.1 hm with hm | hm
  · exact hh it (List.mem_reverse.2 hm) (gn it hm)
  · exact hc.holds_congr ha hσ it hm

theorem GExt.exists_holds {n : Nat} {b : Builder} (h : GExt (fromFresh n) b) (σ : Assign) :
    ∃ τ, Agree n σ τ ∧ Holds τ b :=
  h.extend (Closed.fresh n) (Holds.fresh σ n)

theorem Closed.vals_sat_iff {b : Builder} (hc : Closed b) (τ : Assign) :
    cnfSat τ b.vals = true ↔ b.Holds τ := by
  simp only [cnfSat, vals, List.all_flatten, List.all_map, List.all_reverse, List.all_eq_true,
    Function.comp_apply, Holds]
  refine forall₂_congr fun it hm => ?_
  rw [← Item.sat_eq_holds τ it (fun o ho => ((hc it hm).2 o ho).1) (fun l hl => ((hc it hm).1 l hl).1),
    cnfSat, List.all_eq_true]

theorem mem_vals {b : Builder} {c : Clause} : c ∈ b.vals ↔ ∃ it ∈ b.items, c ∈ it.clauses := by
  simp only [vals, List.mem_flatten, List.mem_map, List.mem_reverse]
  exact ⟨fun ⟨_, ⟨it, hit, e⟩, hc⟩ => ⟨it, hit, e ▸ hc⟩, fun ⟨it, hit, hc⟩ => ⟨_, ⟨it, hit, rfl⟩, hc⟩⟩

theorem Closed.vals_lits {b : Builder} (hc : Closed b) : ∀ c ∈ b.vals, ∀ l ∈ c, l.natAbs ≤ b.nvars := by
  intro c hcm l hl
  obtain ⟨it, hit, hc'⟩ := mem_vals.1 hcm
  exact Item.clause_lits (hc it hit) c hc' l hl

def ReqSpec (b : Builder) (res : Except PyErr Builder) (P : Assign → Prop) : Prop :=
  ∃ b', res = .ok b' ∧ Ext b b' ∧ (∀ τ, Holds τ b' → P τ) ∧
    (∀ σ, Holds σ b → P σ → ∃ τ, Agree b.nvars σ τ ∧ Holds τ b')

theorem ReqSpec.trivial (b : Builder) (P : Assign → Prop) (hP : ∀ τ, P τ) :
    ReqSpec b (.ok b) P :=
  ⟨b, rfl, Ext.refl b, fun τ _ => hP τ, fun σ hσ _ => ⟨σ, .refl _ _, hσ⟩⟩

theorem ReqSpec.congr {b : Builder} {res : Except PyErr Builder} {P P' : Assign → Prop}
    (h : ReqSpec b res P) (hP : ∀ τ, P' τ ↔ P τ) : ReqSpec b res P' := by
  obtain ⟨b', h1, h2, h3, h4⟩ := h
  exact ⟨b', h1, h2, fun τ hτ => (hP τ).2 (h3 τ hτ), fun σ hσ hP' => h4 σ hσ ((hP σ).1 hP')⟩

theorem ReqSpec.sat_iff {n : Nat} {res : Except PyErr Builder} {P : Assign → Prop}
    (h : ReqSpec (fromFresh n) res P) (hPc : ∀ σ τ, Agree n σ τ → (P σ ↔ P τ))
    {b' : Builder} (hres : res = .ok b') (σ : Assign) :
    (∃ τ, Agree n σ τ ∧ cnfSat τ b'.vals = true) ↔ P σ := by
  obtain ⟨b'', h1, h2, h3, h4⟩ := h
  cases h1.symm.trans hres
  have hv := ((Closed.fresh n).ext h2).vals_sat_iff
  constructor
  · rintro ⟨τ, ha, hs⟩
    exact (hPc σ τ ha).2 (h3 τ ((hv τ).1 hs))
  · intro hP
    obtain ⟨τ, ha, hτ⟩ := h4 σ (Holds.fresh σ n) hP
    exact ⟨τ, ha, (hv τ).2 hτ⟩

/-- Every cardinality assertion is a gate-only call followed by unit clauses `us` that, in the
    models of the gates, say `P`. -/
theorem gates_then_units {b b1 : Builder} (hc : Closed b) (g : GExt b b1) (us : List Int)
    (hus : ∀ l ∈ us, LitOK b1.nvars l) (P : Assign → Prop)
    (hP : ∀ τ, Holds τ b1 → ((∀ l ∈ us, litVal τ l = true) ↔ P τ))
    (hPc : ∀ σ τ, Agree b.nvars σ τ → (P σ ↔ P τ)) :
    ReqSpec b (.ok (us.foldl (fun b l => b.emit (.unit l)) b1)) P := by
  refine ⟨_, rfl, g.toExt.trans (.emit_units us b1 hus), fun τ h => ?_, fun σ hσ hPσ => ?_⟩
  · obtain ⟨h1, h2⟩ := holds_emit_units.1 h
    exact (hP τ h1).1 h2
  · obtain ⟨τ, ha, hτ⟩ := g.extend hc hσ
    exact ⟨τ, ha, holds_emit_units.2 ⟨hτ, (hP τ hτ).2 ((hPc σ τ ha).1 hPσ)⟩⟩

end Builder
end SPModel
