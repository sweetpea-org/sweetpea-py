/- `int_to_binary` and `assert_k_of_n`. -/
import SPProofs.Card.Pop
import SPProofs.Card.Closed

namespace SPModel
open Builder
namespace Builder

theorem bit_toNat (k : Nat) : (decide (k % 2 = 1)).toNat = k % 2 := by
  rcases Nat.mod_two_eq_zero_or_one k with h | h <;> rw [h] <;> rfl

theorem intToBinaryLsb_spec (fuel k : Nat) (h : k ≤ fuel) :
    lsbVal (intToBinaryLsb fuel k) = k ∧ ∀ p, k < 2 ^ p → (intToBinaryLsb fuel k).length ≤ p := by
  fun_induction intToBinaryLsb fuel k with
  | case1 k => exact ⟨(Nat.le_zero.1 h).symm, fun p _ => Nat.zero_le p⟩
  | case2 => exact ⟨rfl, fun p _ => Nat.zero_le p⟩
  | case3 fuel k hk ih =>
    have hlt : k / 2 < k := Nat.div_lt_self (Nat.pos_of_ne_zero hk) Nat.one_lt_two
    obtain ⟨h1, h2⟩ := ih (Nat.le_of_lt_succ (Nat.lt_of_lt_of_le hlt h))
    refine ⟨by rw [lsbVal, h1, bit_toNat]; exact Nat.mod_add_div k 2, fun p hp => ?_⟩
    cases p with
    | zero => exact absurd (Nat.lt_one_iff.1 hp) hk
    | succ p => exact Nat.succ_le_succ (h2 p (Nat.div_lt_of_lt_mul (Nat.pow_succ' ▸ hp)))

theorem intToBinary_val (k : Nat) : bval (intToBinary k) = k :=
  (bval_reverse _).trans (intToBinaryLsb_spec k k (Nat.le_refl _)).1

theorem intToBinary_lt (k : Nat) : k < 2 ^ (intToBinary k).length := by
  have := bval_lt (intToBinary k)
  rwa [intToBinary_val] at this

theorem intToBinary_len_le {k p : Nat} (h : k < 2 ^ p) : (intToBinary k).length ≤ p := by
  rw [intToBinary, List.length_reverse]
  exact (intToBinaryLsb_spec k k (Nat.le_refl _)).2 p h

theorem intToBinary_ge (k j : Nat) (h : (intToBinary k).length = j + 1) : 2 ^ j ≤ k :=
  Nat.le_of_not_lt fun hlt => by have := intToBinary_len_le hlt; omega

theorem litVal_signed (τ : Assign) (v : Bool) (l : Int) (hl : l ≠ 0) :
    (litVal τ (signed v l) = true) ↔ litVal τ l = v := by
  cases v
  · simp [signed, litVal_neg _ _ hl]
  · simp [signed]

theorem _root_.SPModel.LitOK.signed {n : Nat} {l : Int} (hl : LitOK n l) (v : Bool) : LitOK n (signed v l) := by
  cases v
  · exact hl.neg
  · exact hl

theorem signed_units (τ : Assign) (vs : List Bool) (ls : List Int) (h : vs.length = ls.length)
    (hne : ∀ l ∈ ls, l ≠ 0) :
    ((∀ u ∈ (vs.zip ls).map (fun (p : Bool × Int) => signed p.1 p.2), litVal τ u = true) ↔
      ls.map (litVal τ) = vs) := by
  induction vs generalizing ls with
  | nil => simp [List.eq_nil_of_length_eq_zero h.symm]
  | cons v vs ih =>
    obtain ⟨l, ls, rfl⟩ := List.exists_cons_of_length_eq_add_one h.symm
    have ih := ih ls (by simpa using h) (fun x hx => hne x (by simp [hx]))
    simp only [List.zip_cons_cons, List.map_cons, List.mem_cons, forall_eq_or_imp, ih,
      litVal_signed τ v l (hne l (by simp)), List.cons.injEq]

theorem contradiction_spec (b : Builder) (hc : Closed b) (x : Int) (hx : LitOK b.nvars x)
    (P : Assign → Prop) (hP : ∀ τ, ¬ P τ) : ReqSpec b (.ok (contradiction b x)) P :=
  gates_then_units hc (GExt.refl b) [x, -x]
    (fun l hl => by
      rcases List.mem_cons.1 hl with rfl | hl
      · exact hx
      · exact List.mem_singleton.1 hl ▸ hx.neg)
    P
    (fun τ _ => by
      simp only [List.mem_cons, List.not_mem_nil, or_false, forall_eq_or_imp, forall_eq,
        litVal_neg _ _ hx.1, hP τ, iff_false]
      cases litVal τ x <;> simp)
    (fun σ τ _ => by simp only [hP])

theorem assertKofN_spec (b : Builder) (hc : Closed b) (k : Nat) (xs : List Int) (hne : xs ≠ [])
    (hx : ∀ x ∈ xs, LitOK b.nvars x) :
    ReqSpec b (b.assertKofN k xs) (fun τ => litCount τ xs = k) := by
  obtain ⟨x0, xs', rfl⟩ := List.exists_cons_of_ne_nil hne
  simp only [assertKofN]
  by_cases hk : k > (x0 :: xs').length
  · rw [if_pos hk]
    exact contradiction_spec b hc x0 (hx x0 (.head _)) _
      fun τ h => Nat.not_le_of_lt hk (h ▸ litCount_le τ _)
  · rw [if_neg hk]
    obtain ⟨sumBits, b1, heq, hlen, r⟩ :=
      popCount_run b (x0 :: xs') ((intToBinary k).length + 1) hx (List.cons_ne_nil _ _)
    rw [heq]
    simp only
    have hp := le_two_pow_clog2 (x0 :: xs').length
    generalize clog2 (x0 :: xs').length = p at *
    have hL : (intToBinary k).length ≤ p + 1 :=
      intToBinary_len_le (Nat.lt_of_le_of_lt (Nat.le_trans (Nat.le_of_not_lt hk) hp)
        (Nat.pow_lt_pow_right (Nat.lt_succ_self 1) (Nat.lt_succ_self p)))
    have hkL := intToBinary_lt k
    generalize hLdef : (intToBinary k).length = L at *
    -- `k ≤ n ≤ 2 ^ p`: the digits of `k` fit into the width of the sum, so `take` cuts nothing off
    have hW : L ≤ sumBits.length := by
      rw [hlen, if_neg (Nat.succ_ne_zero L)]
      exact Nat.le_min.2 ⟨hL, Nat.le_succ L⟩
    rw [List.take_of_length_le (by rwa [List.length_reverse, hLdef])]
    simp only [List.length_reverse, hLdef, List.reverse_append, List.reverse_replicate,
      List.reverse_reverse]
    have hplen : (List.replicate (sumBits.length - L) false ++ intToBinary k).length
        = sumBits.length := by rw [List.length_append, List.length_replicate, hLdef, Nat.sub_add_cancel hW]
    have hpval : bval (List.replicate (sumBits.length - L) false ++ intToBinary k) = k := by
      rw [bval_append, bval_replicate_false, intToBinary_val]; simp
    generalize List.replicate (sumBits.length - L) false ++ intToBinary k = padded at *
    refine gates_then_units hc r.gext
      ((padded.zip sumBits).map (fun (p : Bool × Int) => signed p.1 p.2))
      (fun l hl => by
        obtain ⟨⟨v, sb⟩, hm, rfl⟩ := List.mem_map.1 hl
        exact (r.lits sb (List.of_mem_zip hm).2).signed v)
      _
      (fun τ hτ => by
        rw [signed_units τ padded sumBits hplen (fun l hl => (r.lits l hl).1),
          ← (stored_cmp (r.sem τ hτ) hkL).1, bitsVal_eq, ← hpval]
        exact ⟨fun h => by rw [h], fun h => bval_inj (by simp [hplen]) h⟩)
      (fun σ τ ha => by rw [litCount_congr hx ha])

end Builder
end SPModel
