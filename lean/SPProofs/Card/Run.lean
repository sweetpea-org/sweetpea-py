/- Builder calls that only add gates: the notion `Run` all their specifications share, with its
   composition (`Run.seq`), a single gate and a block of fresh variables with one gate each.
   Before it, `freshN` and `zeroOut` in closed form. -/
import SPProofs.Card.Bits

namespace SPModel
open Builder

namespace Builder

@[simp] theorem freshN_fst_length (b : Builder) (k : Nat) : (b.freshN k).1.length = k := by
  simp [freshN]

@[simp] theorem freshN_fst_getElem (b : Builder) (k i : Nat) (hi : i < (b.freshN k).1.length) :
    (b.freshN k).1[i] = b.nvars + 1 + i := by
  simp [freshN]

@[simp] theorem freshN_snd (b : Builder) (k : Nat) :
    (b.freshN k).2 = { nvars := b.nvars + k, items := b.items } := rfl

theorem mem_freshN {b : Builder} {k v : Nat} :
    v ∈ (b.freshN k).1 ↔ b.nvars < v ∧ v ≤ b.nvars + k := by
  rw [freshN, ← List.range'_eq_map_range, List.mem_range'_1, Nat.add_right_comm, Nat.lt_add_one_iff]
  exact Iff.rfl

theorem freshN_reverse_succ (b : Builder) (m : Nat) :
    ((b.freshN (m + 1)).1).reverse = (b.nvars + 1 + m) :: ((b.freshN m).1).reverse := by
  simp [freshN, List.range_succ]

theorem zeroOut_eq (b : Builder) (vs : List Nat) :
    b.zeroOut vs = { nvars := b.nvars, items := (vs.map (fun v => Item.const v false)).reverse ++ b.items } :=
  foldl_emit _ vs b

/-- The literal list of a block of fresh variables. -/
def castL (vs : List Nat) : List Int := vs.map (fun (v : Nat) => (v : Int))

/-- Right to left on purpose: rewriting with it folds the spelling that unfolding a model
    function leaves into `castL`. -/
theorem castL_def (vs : List Nat) : vs.map (fun (v : Nat) => (v : Int)) = castL vs := rfl

@[simp] theorem castL_length (vs : List Nat) : (castL vs).length = vs.length := List.length_map _

/-- A builder call that only adds gates takes `b` to `b'`, returns the literals `out`, and
    makes `Q` true. -/
structure Run (b b' : Builder) (out : List Int) (Q : Assign → Prop) : Prop where
  gext : GExt b b'
  lits : ∀ l ∈ out, LitOK b'.nvars l
  sem : ∀ τ, Holds τ b' → Q τ

namespace Run
variable {b b₁ b₂ b' : Builder} {out out₁ out₂ : List Int} {Q Q₁ Q₂ : Assign → Prop}

theorem ext (h : Run b b' out Q) : Ext b b' := h.gext.toExt

theorem lift (h : Run b b' out Q) {l : Int} (hl : LitOK b.nvars l) : LitOK b'.nvars l :=
  hl.mono h.ext.le

theorem refl (b : Builder) (ho : ∀ l ∈ out, LitOK b.nvars l) (hQ : ∀ τ, Q τ) : Run b b out Q :=
  ⟨GExt.refl b, ho, fun τ _ => hQ τ⟩

theorem seq (h₁ : Run b b₁ out₁ Q₁) (h₂ : Run b₁ b₂ out₂ Q₂) :
    Run b b₂ (out₁ ++ out₂) (fun τ => Q₁ τ ∧ Q₂ τ) where
  gext := h₁.gext.trans h₂.gext
  lits l hl := (List.mem_append.1 hl).elim (fun h => h₂.lift (h₁.lits l h)) (h₂.lits l)
  sem τ hτ := ⟨h₁.sem τ (h₂.ext.holds hτ), h₂.sem τ hτ⟩

theorem mono (h : Run b b' out Q) {out' : List Int} {Q' : Assign → Prop}
    (ho : ∀ l ∈ out', l ∈ out ∨ LitOK b.nvars l) (hQ : ∀ τ, Q τ → Q' τ) : Run b b' out' Q' :=
  ⟨h.gext, fun l hl => (ho l hl).elim (h.lits l) h.lift, fun τ hτ => hQ τ (h.sem τ hτ)⟩

theorem imp (h : Run b b' out Q) {Q' : Assign → Prop} (hQ : ∀ τ, Q τ → Q' τ) : Run b b' out Q' :=
  h.mono (fun _ h => .inl h) hQ

theorem gate (b : Builder) (it : Item) (ho : it.out = some (b.nvars + 1))
    (hi : ∀ l ∈ it.ins, LitOK b.nvars l) :
    Run b { nvars := b.nvars + 1, items := it :: b.items } [((b.nvars + 1 : Nat) : Int)]
      (fun τ => litVal τ ((b.nvars + 1 : Nat) : Int) = it.eval τ) where
  gext := GExt.gate b it ho hi
  lits l hl := List.mem_singleton.1 hl ▸ LitOK.natCast (Nat.succ_pos _) (Nat.le_refl _)
  sem τ hτ := by
    rw [litVal_natCast _ _ (Nat.succ_pos _)]
    exact eq_of_beq ((Item.holds_of_out ho).symm ▸ hτ it (List.mem_cons_self ..))

theorem seq_gate (h : Run b b₁ out Q) (it : Item) (ho : it.out = some (b₁.nvars + 1))
    (hi : ∀ l ∈ it.ins, LitOK b₁.nvars l) :
    Run b { nvars := b₁.nvars + 1, items := it :: b₁.items } (out ++ [((b₁.nvars + 1 : Nat) : Int)])
      (fun τ => Q τ ∧ litVal τ ((b₁.nvars + 1 : Nat) : Int) = it.eval τ) :=
  h.seq (gate b₁ it ho hi)

theorem block (b : Builder) (its : List Item)
    (h : ∀ i (hi : i < its.length), its[i].out = some (b.nvars + 1 + i) ∧
      ∀ l ∈ its[i].ins, LitOK b.nvars l) :
    Run b { nvars := b.nvars + its.length, items := its.reverse ++ b.items }
      (castL (b.freshN its.length).1)
      (fun τ => (castL (b.freshN its.length).1).map (litVal τ) = its.map (Item.eval τ)) where
  gext := ⟨its.reverse, rfl, by
    rw [List.reverse_reverse]
    exact Chain.of_gates its b.nvars fun i hi =>
      ⟨(h i hi).1, fun l hl => ((h i hi).2 l hl).mono (Nat.le_add_right ..)⟩,
    fun it hm => by
      obtain ⟨i, hi, rfl⟩ := List.mem_iff_getElem.1 (List.mem_reverse.1 hm)
      rw [(h i hi).1]
      exact Option.some_ne_none _⟩
  lits l hl := by
    obtain ⟨v, hv, rfl⟩ := List.mem_map.1 hl
    have := mem_freshN.1 hv
    exact LitOK.natCast (Nat.zero_lt_of_lt this.1) this.2
  sem τ hτ := by
    refine List.ext_getElem (by simp) (fun i _ hi => ?_)
    rw [List.length_map] at hi
    have := hτ its[i] (List.mem_append_left _ (List.mem_reverse.2 (List.getElem_mem hi)))
    rw [Item.holds_of_out (h i hi).1] at this
    simp only [castL, List.getElem_map, freshN_fst_getElem]
    rw [litVal_natCast _ _ (Nat.lt_add_right i (Nat.succ_pos _))]
    exact eq_of_beq this

end Run

/-- `get_n_fresh(k)` followed by `zero_out`. -/
theorem freshZero_run (b : Builder) (k : Nat) :
    Run b ((b.freshN k).2.zeroOut (b.freshN k).1) (castL (b.freshN k).1)
      (fun τ => ∀ l ∈ castL (b.freshN k).1, litVal τ l = false) := by
  have r := Run.block b ((b.freshN k).1.map (fun v => Item.const v false))
    (by intro i hi; rw [List.getElem_map, freshN_fst_getElem]; exact ⟨rfl, fun _ h => nomatch h⟩)
  simp only [List.length_map, freshN_fst_length] at r
  rw [zeroOut_eq]
  refine r.imp (fun τ h l hl => ?_)
  have := List.mem_map_of_mem (f := litVal τ) hl
  simp only [h, List.map_map, List.mem_map, Function.comp_apply, Item.eval] at this
  obtain ⟨_, _, e⟩ := this
  exact e.symm

end Builder
end SPModel
