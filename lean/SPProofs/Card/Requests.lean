/- Requests: `applyRequest`, `applyRequests`. -/
import SPProofs.Card.AssertIneq

namespace SPModel
open Builder

theorem Request.holds_eq (r : Request) (τ : Assign) :
    r.holds τ = (match r.rel with
      | .eq => litCount τ r.vars == r.k
      | .lt => decide (litCount τ r.vars < r.k)
      | .gt => decide (litCount τ r.vars > r.k)) := rfl

theorem Request.holds_congr_on {σ τ : Assign} (r : Request)
    (h : ∀ x ∈ r.vars, σ x.natAbs = τ x.natAbs) : r.holds σ = r.holds τ := by
  simp only [Request.holds, List.filter_congr fun x hx => litVal_congr_on (h x hx)]

theorem Request.holds_congr {n : Nat} {σ τ : Assign} (r : Request)
    (hx : ∀ x ∈ r.vars, LitOK n x) (h : Agree n σ τ) : r.holds σ = r.holds τ :=
  r.holds_congr_on fun x hxm => (hx x hxm).agree h

namespace Builder

theorem applyRequest_spec (b : Builder) (hc : Closed b) (r : Request) (hne : r.vars ≠ [])
    (hx : ∀ x ∈ r.vars, LitOK b.nvars x) :
    ReqSpec b (b.applyRequest r) (fun τ => r.holds τ = true) := by
  obtain ⟨rel, k, vars⟩ := r
  cases rel
  · exact (assertKofN_spec b hc k vars hne hx).congr fun τ => beq_iff_eq
  · exact (inequalityAssertion_spec b hc true k vars hne hx).congr fun τ => decide_eq_true_iff
  · exact (inequalityAssertion_spec b hc false k vars hne hx).congr fun τ => decide_eq_true_iff

theorem applyRequests_spec (reqs : List Request) (b : Builder) (hc : Closed b)
    (hr : ∀ r ∈ reqs, r.vars ≠ [] ∧ ∀ x ∈ r.vars, LitOK b.nvars x) :
    ReqSpec b (b.applyRequests reqs) (fun τ => ∀ r ∈ reqs, r.holds τ = true) := by
  induction reqs generalizing b with
  | nil => exact ReqSpec.trivial b _ fun _ _ h => nomatch h
  | cons r rs ih =>
    obtain ⟨hne, hx⟩ := hr r (by simp)
    obtain ⟨b1, e1, x1, p1, q1⟩ := applyRequest_spec b hc r hne hx
    have hle := x1.le
    have hrs : ∀ r' ∈ rs, r'.vars ≠ [] ∧ ∀ x ∈ r'.vars, LitOK b1.nvars x := fun r' hm =>
      ⟨(hr r' (by simp [hm])).1, fun x hxm => ((hr r' (by simp [hm])).2 x hxm).mono hle⟩
    obtain ⟨b2, e2, x2, p2, q2⟩ := ih b1 (hc.ext x1) hrs
    refine ⟨b2, ?_, x1.trans x2, ?_, ?_⟩
    · simp only [applyRequests, e1, e2]
    · intro τ hτ r' hm
      rcases List.mem_cons.1 hm with rfl | hm
      · exact p1 τ (x2.holds hτ)
      · exact p2 τ hτ r' hm
    · intro σ hσ hP
      obtain ⟨τ1, a1, t1⟩ := q1 σ hσ (hP r (by simp))
      obtain ⟨τ2, a2, t2⟩ := q2 τ1 t1 (fun r' hm => by
        rw [← Request.holds_congr r' (hr r' (by simp [hm])).2 a1]
        exact hP r' (by simp [hm]))
      exact ⟨τ2, a1.trans (a2.mono hle), t2⟩

end Builder
end SPModel
