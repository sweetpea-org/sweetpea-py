/-
  The step all unranking functions of `combinatorics.py` share: `[0, N)` is split into
  blocks, one per first choice, and the index is unranked inside its block.
  `BijOn.of_blocks` is that step, proved once; the blocks lie one after the other
  (`BijOn.concat`) or are interleaved (`BijOn.divMod`).  Nothing of the model is mentioned.
-/
import SPProofs.Basic.BijOn

namespace SPModel.Comb

def psum (t : Nat → Nat) : Nat → Nat
  | 0 => 0
  | k + 1 => psum t k + t k

theorem psum_zero (t : Nat → Nat) : psum t 0 = 0 := rfl

theorem psum_succ (t : Nat → Nat) (k : Nat) : psum t (k + 1) = psum t k + t k := rfl

theorem foldl_add_range (g : Nat → Nat) (K : Nat) :
    (List.range K).foldl (fun acc v => acc + g v) 0 = psum g K := by
  induction K with
  | zero => rfl
  | succ K ih => rw [List.range_succ, List.foldl_append, ih]; rfl

theorem psum_congr {t t' : Nat → Nat} {K : Nat} (h : ∀ v, v < K → t v = t' v) :
    psum t K = psum t' K := by
  induction K with
  | zero => rfl
  | succ K ih => rw [psum_succ, psum_succ, ih (fun v hv => h v (Nat.lt_succ_of_lt hv)), h K (Nat.lt_succ_self K)]

theorem psum_mul (m : Nat) (g : Nat → Nat) (K : Nat) :
    psum (fun v => m * g v) K = m * psum g K := by
  induction K with
  | zero => rfl
  | succ K ih => rw [psum_succ, psum_succ, ih, Nat.mul_add]

theorem psum_succ_front (t : Nat → Nat) (K : Nat) :
    psum t (K + 1) = t 0 + psum (fun v => t (v + 1)) K := by
  induction K with
  | zero => rw [psum_succ, psum_zero, psum_zero, Nat.add_comm]
  | succ K ih => rw [psum_succ, ih, psum_succ, Nat.add_assoc]

theorem psum_le (t : Nat → Nat) {v K : Nat} (h : v < K) : psum t v + t v ≤ psum t K := by
  induction K with
  | zero => exact absurd h (Nat.not_lt_zero _)
  | succ K ih =>
    rcases Nat.lt_succ_iff_lt_or_eq.1 h with hv | rfl
    · exact Nat.le_trans (ih hv) (Nat.le_add_right _ _)
    · exact Nat.le_refl _

theorem psum_split (t : Nat → Nat) {K x : Nat} (h : x < psum t K) :
    ∃ v y, v < K ∧ y < t v ∧ x = psum t v + y := by
  induction K with
  | zero => exact absurd h (Nat.not_lt_zero _)
  | succ K ih =>
    by_cases hx : x < psum t K
    · obtain ⟨v, y, hv, hy, e⟩ := ih hx
      exact ⟨v, y, Nat.lt_succ_of_lt hv, hy, e⟩
    · rw [psum_succ] at h
      have hle := Nat.le_of_not_lt hx
      exact ⟨K, x - psum t K, Nat.lt_succ_self K, Nat.sub_lt_left_of_lt_add hle h, (Nat.add_sub_cancel' hle).symm⟩

end SPModel.Comb

namespace BijOn
open SPModel.Comb
variable {β : Type}

theorem zero {f : Nat → β} {E : β → Prop} (hE : ∀ b, ¬ E b) : BijOn f (· < 0) E :=
  ⟨fun _ h => absurd h (Nat.not_lt_zero _), fun _ _ h => absurd h (Nat.not_lt_zero _),
   fun b hb => absurd hb (hE b)⟩

theorem one {f : Nat → β} {E : β → Prop} (h0 : E (f 0)) (hE : ∀ b, E b → b = f 0) :
    BijOn f (· < 1) E :=
  ⟨fun j hj => by rw [Nat.lt_one_iff.1 hj]; exact h0,
   fun i j hi hj _ => by rw [Nat.lt_one_iff.1 hi, Nat.lt_one_iff.1 hj],
   fun b hb => ⟨0, Nat.one_pos, (hE b hb).symm⟩⟩

theorem consOk {ε α : Type} {D : Nat → Prop} {f : Nat → Except ε (List α)} {E : List α → Prop}
    (i : α) (h : BijOn f D (Ok E)) :
    BijOn (fun j => (f j).map (i :: ·)) D (fun e => ∃ r, e = .ok (i :: r) ∧ E r) :=
  h.wrap (Except.map (i :: ·)) (fun _ => rfl) (fun _ _ e => (List.cons.inj (Except.ok.inj e)).2)

/-- `[0, T)` is covered by blocks `v < K` of `t v` indices each (`code v y` is the `y`-th
    index of block `v`); on block `v`, `f` is `g v`, which enumerates the values of kind
    `E v`; no value is of the kinds of two blocks.  Then `f` enumerates the union of the kinds. -/
theorem of_blocks {T K : Nat} {t : Nat → Nat} {f : Nat → β} {g : Nat → Nat → β}
    {E : Nat → β → Prop} {F : β → Prop} (code : Nat → Nat → Nat)
    (hlt : ∀ v y, v < K → y < t v → code v y < T)
    (hall : ∀ j, j < T → ∃ v y, v < K ∧ y < t v ∧ j = code v y)
    (hg : ∀ v, v < K → BijOn (g v) (· < t v) (E v))
    (hf : ∀ v y, v < K → y < t v → f (code v y) = g v y)
    (hdisj : ∀ v v' b, v < K → v' < K → E v b → E v' b → v = v')
    (hF : ∀ b, F b ↔ ∃ v, v < K ∧ E v b) : BijOn f (· < T) F := by
  refine ⟨fun j hj => ?_, fun i j hi hj e => ?_, fun b hb => ?_⟩
  · obtain ⟨v, y, hv, hy, rfl⟩ := hall j hj
    exact (hF _).2 ⟨v, hv, hf v y hv hy ▸ (hg v hv).maps y hy⟩
  · obtain ⟨v, y, hv, hy, rfl⟩ := hall i hi
    obtain ⟨v', y', hv', hy', rfl⟩ := hall j hj
    rw [hf v y hv hy, hf v' y' hv' hy'] at e
    have hvv : v = v' := hdisj v v' _ hv hv' ((hg v hv).maps y hy) (e ▸ (hg v' hv').maps y' hy')
    subst hvv
    rw [(hg v hv).inj y y' hy hy' e]
  · obtain ⟨v, hv, hb⟩ := (hF b).1 hb
    obtain ⟨y, hy, e⟩ := (hg v hv).surj b hb
    exact ⟨code v y, hlt v y hv hy, (hf v y hv hy).trans e⟩

theorem concat {K : Nat} {t : Nat → Nat} {f : Nat → β} {g : Nat → Nat → β}
    {E : Nat → β → Prop} {F : β → Prop}
    (hg : ∀ v, v < K → BijOn (g v) (· < t v) (E v))
    (hf : ∀ v y, v < K → y < t v → f (psum t v + y) = g v y)
    (hdisj : ∀ v v' b, v < K → v' < K → E v b → E v' b → v = v')
    (hF : ∀ b, F b ↔ ∃ v, v < K ∧ E v b) : BijOn f (· < psum t K) F :=
  of_blocks (fun v y => psum t v + y)
    (fun _ _ hv hy => Nat.lt_of_lt_of_le (Nat.add_lt_add_left hy _) (psum_le t hv))
    (fun _ hj => psum_split t hj) hg hf hdisj hF

theorem divMod {K M : Nat} {g : Nat → Nat → β} {E : Nat → β → Prop} {F : β → Prop}
    (hg : ∀ v, v < K → BijOn (g v) (· < M) (E v))
    (hdisj : ∀ v v' b, v < K → v' < K → E v b → E v' b → v = v')
    (hF : ∀ b, F b ↔ ∃ v, v < K ∧ E v b) : BijOn (fun j => g (j % K) (j / K)) (· < K * M) F :=
  of_blocks (t := fun _ => M) (fun v y => v + K * y)
    (fun v y hv hy => by
      calc v + K * y < K + K * y := Nat.add_lt_add_right hv _
        _ = K * (y + 1) := by rw [Nat.mul_add, Nat.mul_one, Nat.add_comm]
        _ ≤ K * M := Nat.mul_le_mul_left _ hy)
    (fun j hj => by
      have hK : 0 < K := Nat.pos_of_lt_mul_right hj
      exact ⟨j % K, j / K, Nat.mod_lt _ hK,
        (Nat.div_lt_iff_lt_mul hK).2 (by rwa [Nat.mul_comm] at hj), (Nat.mod_add_div j K).symm⟩)
    hg
    (fun v y hv _ => by
      have hK : 0 < K := Nat.zero_lt_of_lt hv
      show g ((v + K * y) % K) ((v + K * y) / K) = g v y
      rw [Nat.add_mul_mod_self_left, Nat.mod_eq_of_lt hv, Nat.add_mul_div_left _ _ hK,
        Nat.div_eq_of_lt hv, Nat.zero_add])
    hdisj hF

end BijOn
