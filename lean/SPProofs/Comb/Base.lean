/- Lists of numbers read by position with default 0, as the model reads them; the model's `factorial` /
   `fallingProd` are Mathlib's. -/
import SPProofs.Comb.Sem
import Mathlib.Data.Nat.Choose.Basic
import Mathlib.Data.Nat.Factorial.Basic
-- No proof uses this import.  With it in scope `cs.sum` and `nl ^ n` over `Nat` elaborate through
-- `Nat.instMulZeroClass` / `Nat.instMonoid`; the statements of C13 and the definitions of
-- `RandomGen/Defs.lean`, which import this file, are registered in that form.
import Mathlib.Algebra.Ring.Nat

namespace SPModel.Comb

theorem getD_eq_getElem {α : Type} (d : α) {l : List α} {i : Nat} (h : i < l.length) : l.getD i d = l[i] := by
  rw [List.getD_eq_getElem?_getD, List.getElem?_eq_getElem h]; rfl

theorem getD_ext {l₁ l₂ : List Nat} (hl : l₁.length = l₂.length)
    (h : ∀ k, k < l₁.length → l₁.getD k 0 = l₂.getD k 0) : l₁ = l₂ :=
  List.ext_getElem hl fun k h1 h2 => by rw [← getD_eq_getElem 0 h1, ← getD_eq_getElem 0 h2]; exact h k h1

theorem getD_mem {l : List Nat} {i : Nat} (h : i < l.length) : l.getD i 0 ∈ l := by
  rw [getD_eq_getElem 0 h]; exact List.getElem_mem h

theorem exists_getD_of_mem {l : List Nat} {x : Nat} (h : x ∈ l) : ∃ i, i < l.length ∧ l.getD i 0 = x := by
  obtain ⟨i, hi, rfl⟩ := List.getElem_of_mem h
  exact ⟨i, hi, getD_eq_getElem 0 hi⟩

theorem nodup_getD_inj {l : List Nat} (h : l.Nodup) {i j : Nat} (hi : i < l.length) (hj : j < l.length)
    (e : l.getD i 0 = l.getD j 0) : i = j := by
  rw [getD_eq_getElem 0 hi, getD_eq_getElem 0 hj] at e
  have hp := List.pairwise_iff_getElem.1 h
  rcases Nat.lt_trichotomy i j with hlt | rfl | hgt
  · exact absurd e (hp i j hi hj hlt)
  · rfl
  · exact absurd e.symm (hp j i hj hi hgt)

theorem getD_map {α : Type} (f : α → Nat) (l : List α) {t : Nat} (ht : t < l.length) :
    (l.map f).getD t 0 = f l[t] := by
  simp [List.getD_eq_getElem?_getD, ht]

theorem map_range_getD {l : List Nat} {n : Nat} (hl : l.length = n) :
    (List.range n).map (fun t => l.getD t 0) = l := by
  refine getD_ext (by rw [List.length_map, List.length_range, hl]) fun k hk => ?_
  rw [List.length_map, List.length_range] at hk
  rw [getD_map _ _ (by rw [List.length_range]; exact hk), List.getElem_range]

theorem getD_append_left {xs : List Nat} (ys : List Nat) {i : Nat} (h : i < xs.length) :
    (xs ++ ys).getD i 0 = xs.getD i 0 := by
  rw [List.getD_eq_getElem?_getD, List.getD_eq_getElem?_getD, List.getElem?_append_left h]

theorem getD_append_replicate {xs : List Nat} (k : Nat) {i : Nat} (h : xs.length ≤ i) :
    (xs ++ List.replicate k 0).getD i 0 = 0 := by
  rw [List.getD_eq_getElem?_getD, List.getElem?_append_right h, List.getElem?_replicate]
  split <;> rfl

theorem getD_append_single (xs : List Nat) (v : Nat) : (xs ++ [v]).getD xs.length 0 = v := by
  rw [List.getD_eq_getElem?_getD, List.getElem?_append_right (Nat.le_refl _), Nat.sub_self]; rfl

theorem getD_le_sum (cs : List Nat) (i : Nat) : cs.getD i 0 ≤ cs.sum := by
  induction cs generalizing i with
  | nil => exact Nat.le_refl 0
  | cons c cs ih =>
    cases i with
    | zero => rw [List.getD_cons_zero, List.sum_cons]; exact Nat.le_add_right c _
    | succ i => rw [List.getD_cons_succ, List.sum_cons]; exact Nat.le_trans (ih i) (Nat.le_add_left _ c)

theorem factorial_eq (n : Nat) : factorial n = n.factorial := by
  induction n with
  | zero => rfl
  | succ n ih => exact congrArg ((n + 1) * ·) ih

theorem factorial_pos (n : Nat) : 0 < factorial n := by
  rw [factorial_eq]; exact Nat.factorial_pos n

theorem fallingProd_eq_descFactorial (n m : Nat) : fallingProd n m = n.descFactorial m := by
  induction m generalizing n with
  | zero => rfl
  | succ m ih =>
    cases n with
    | zero => exact (Nat.zero_mul _).trans (Nat.zero_descFactorial_succ m).symm
    | succ n => exact (congrArg ((n + 1) * ·) (ih n)).trans (Nat.succ_descFactorial_succ n m).symm

theorem fallingProd_mul_factorial (n m : Nat) (hm : m ≤ n) :
    fallingProd n m * factorial (n - m) = factorial n := by
  rw [fallingProd_eq_descFactorial, factorial_eq, factorial_eq, Nat.mul_comm]
  exact Nat.factorial_mul_descFactorial hm

end SPModel.Comb
