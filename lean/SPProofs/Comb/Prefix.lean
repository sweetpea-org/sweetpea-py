/-
  Prefixes of permutations with bounded repetitions: `findFrom` walks the allocations depth
  first, each leaf standing for `mult` arrangements that `constructWithCopies` unranks; `countFrom`
  adds up the leaves.  `Searches` is the form of statement for such a search, `Fits` the words still
  to be found below a node of the walk; the result is `jthPrefix_bij`.
-/
import SPProofs.Comb.Radix
import SPProofs.Comb.Multi

namespace SPModel.Comb

/-- one step of the "skip or hit" fold of `findFrom` -/
def searchStep {α : Type} (f : Nat → Nat → Except PyErr (Sum α Nat))
    (acc : Except PyErr (Sum α Nat)) (v : Nat) : Except PyErr (Sum α Nat) :=
  match acc with
  | .ok (.inr x) => f v x
  | other => other

theorem search_skip {α : Type} (f : Nat → Nat → Except PyErr (Sum α Nat)) (t : Nat → Nat) (K : Nat)
    (hskip : ∀ v, v < K → ∀ x, t v ≤ x → f v x = .ok (.inr (x - t v)))
    (x : Nat) (hx : psum t K ≤ x) :
    (List.range K).foldl (searchStep f) (.ok (.inr x)) = .ok (.inr (x - psum t K)) := by
  induction K with
  | zero => rfl
  | succ K ih =>
    rw [psum_succ] at hx
    rw [List.range_succ, List.foldl_append,
      ih (fun v hv => hskip v (Nat.lt_succ_of_lt hv)) (Nat.le_trans (Nat.le_add_right _ _) hx)]
    show f K (x - psum t K) = _
    rw [hskip K (Nat.lt_succ_self K) _ (Nat.le_sub_of_add_le' hx), psum_succ, Nat.sub_sub]

theorem search_hit {α : Type} (f : Nat → Nat → Except PyErr (Sum α Nat)) (t : Nat → Nat) (K : Nat)
    (hskip : ∀ v, v < K → ∀ x, t v ≤ x → f v x = .ok (.inr (x - t v)))
    (v y : Nat) (hv : v < K) (p : α) (hp : f v y = .ok (.inl p)) :
    (List.range K).foldl (searchStep f) (.ok (.inr (psum t v + y))) = .ok (.inl p) := by
  induction K with
  | zero => exact absurd hv (Nat.not_lt_zero v)
  | succ K ih =>
    have hskip' := fun u hu => hskip u (Nat.lt_succ_of_lt hu)
    rw [List.range_succ, List.foldl_append]
    rcases Nat.lt_succ_iff_lt_or_eq.1 hv with hvK | rfl
    · rw [ih hskip' hvK]
      rfl
    · rw [search_skip f t v hskip' _ (Nat.le_add_right _ y), Nat.add_sub_cancel_left]
      exact hp

/-- `f` finds the `N` values of kind `P` at the indices below `N`, and hands a larger index on, lowered by `N` -/
def Searches {α : Type} (N : Nat) (f : Nat → Except PyErr (Sum α Nat)) (P : α → Prop) : Prop :=
  BijOn f (· < N) (fun e => ∃ p, e = .ok (.inl p) ∧ P p) ∧ ∀ x, N ≤ x → f x = .ok (.inr (x - N))

theorem Searches.foldl {α : Type} {K : Nat} {t : Nat → Nat}
    {g : Nat → Nat → Except PyErr (Sum α Nat)} {P : Nat → α → Prop} {Q : α → Prop}
    (hg : ∀ v, v < K → Searches (t v) (g v) (P v))
    (hdisj : ∀ v v' p, P v p → P v' p → v = v')
    (hQ : ∀ p, Q p ↔ ∃ v, v < K ∧ P v p) :
    Searches (psum t K) (fun x => (List.range K).foldl (searchStep g) (.ok (.inr x))) Q := by
  have hskip : ∀ v, v < K → ∀ x, t v ≤ x → g v x = .ok (.inr (x - t v)) := fun v hv => (hg v hv).2
  refine ⟨BijOn.concat (E := fun v e => ∃ p, e = .ok (.inl p) ∧ P v p)
    (fun v hv => (hg v hv).1) (fun v y hv hy => ?_) ?_ (fun e => ⟨?_, ?_⟩),
    fun x hx => search_skip g t K hskip x hx⟩
  · obtain ⟨p, hp, -⟩ := (hg v hv).1.maps y hy
    exact (search_hit g t K hskip v y hv p hp).trans hp.symm
  · rintro v v' _ _ _ ⟨p, rfl, hp⟩ ⟨p', he', hp'⟩
    cases he'
    exact hdisj v v' p hp hp'
  · rintro ⟨p, he, hp⟩
    obtain ⟨v, hv, hp'⟩ := (hQ p).1 hp
    exact ⟨v, hv, p, he, hp'⟩
  · rintro ⟨v, hv, p, he, hp'⟩
    exact ⟨p, he, (hQ p).2 ⟨v, hv, hp'⟩⟩

def findLeaf (q firstN : Nat) (buckets : List Nat) (mult find : Nat) : Except PyErr (Sum (List Nat) Nat) :=
  if find < mult then
    match constructWithCopies q firstN find (bucketsToCounters buckets q) with
    | .ok p => .ok (.inl p)
    | .error e => .error e
  else .ok (.inr (find - mult))

theorem findFrom_zero_need (a : Avail) (q firstN fuel start : Nat) (buckets : List Nat) (mult find : Nat) :
    findFrom a q firstN fuel start 0 buckets mult find = findLeaf q firstN buckets mult find := by
  cases fuel <;> rfl

theorem countFrom_zero_need (a : Avail) (q fuel start : Nat) : countFrom a q fuel start 0 = 1 := by
  cases fuel <;> rfl

theorem countFrom_succ (a : Avail) (q fuel start need : Nat) (hneed : need ≠ 0) (hs : start < q)
    (ha : ¬ a.after q start < need) :
    countFrom a q (fuel + 1) start need =
      psum (fun v => countFrom a q fuel (start + 1) (need - v) * countInterleavings v need)
        (min (a.at start) need + 1) := by
  exact (if_neg hneed).trans <| (if_neg (Nat.not_le.2 hs)).trans <| (if_neg ha).trans (foldl_add_range _ _)

theorem findFrom_succ (a : Avail) (q firstN fuel start need : Nat) (buckets : List Nat) (mult find : Nat)
    (hneed : need ≠ 0) (hs : start < q) (ha : ¬ a.after q start < need) :
    findFrom a q firstN (fuel + 1) start need buckets mult find =
      (List.range (min (a.at start) need + 1)).foldl
        (searchStep (fun v x => findFrom a q firstN fuel (start + 1) (need - v) (v :: buckets)
          (countInterleavings v need * mult) x)) (.ok (.inr find)) := by
  refine (if_neg hneed).trans <| (if_neg (Nat.not_le.2 hs)).trans <| (if_neg ha).trans ?_
  congr 1
  funext acc v
  cases acc with
  | error e => rfl
  | ok r => cases r <;> rfl

theorem countFrom_of_not (a : Avail) (q fuel start need : Nat) (hneed : need ≠ 0)
    (h : ¬ (start < q ∧ ¬ a.after q start < need)) : countFrom a q fuel start need = 0 := by
  cases fuel with
  | zero => exact if_neg hneed
  | succ fuel =>
    refine (if_neg hneed).trans ?_
    rcases Nat.lt_or_ge start q with hs | hs
    · rw [if_neg (Nat.not_le.2 hs), if_pos (Decidable.not_not.1 fun ha => h ⟨hs, ha⟩)]
    · rw [if_pos hs]

theorem findFrom_of_not (a : Avail) (q firstN fuel start need : Nat) (buckets : List Nat)
    (mult find : Nat) (hneed : need ≠ 0) (h : ¬ (start < q ∧ ¬ a.after q start < need)) :
    findFrom a q firstN fuel start need buckets mult find = .ok (.inr find) := by
  cases fuel with
  | zero => exact if_neg hneed
  | succ fuel =>
    refine (if_neg hneed).trans ?_
    rcases Nat.lt_or_ge start q with hs | hs
    · rw [if_neg (Nat.not_le.2 hs), if_pos (Decidable.not_not.1 fun ha => h ⟨hs, ha⟩)]
    · rw [if_pos hs]

/-- the walk after the choices below `pre.length` got `pre` uses: `start = pre.length`, `buckets = pre.reverse` -/
structure FindInv (q firstN fuel need : Nat) (pre : List Nat) (mult : Nat) : Prop where
  sum : pre.sum + need = firstN
  mul : mult = countRemaining (pre ++ [need])
  fuel : pre.length + fuel = q

theorem FindInv.init (q firstN : Nat) : FindInv q firstN q firstN [] 1 :=
  ⟨Nat.zero_add _, (countRemaining_single firstN).symm, Nat.zero_add _⟩

theorem FindInv.step {q firstN fuel need : Nat} {pre : List Nat} {mult : Nat}
    (h : FindInv q firstN (fuel + 1) need pre mult) (v : Nat) (hv : v ≤ need) :
    FindInv q firstN fuel (need - v) (pre ++ [v]) (countInterleavings v need * mult) := by
  refine ⟨?_, ?_, ?_⟩
  · rw [List.sum_append, List.sum_singleton, Nat.add_assoc, Nat.add_sub_cancel' hv]; exact h.sum
  · rw [countInterleavings_eq v need hv, h.mul, List.append_assoc]
    exact (countRemaining_split _ hv).symm
  · rw [List.length_append, List.length_singleton, Nat.add_assoc, Nat.add_comm 1]; exact h.fuel

theorem bucketsToCounters_eq (pre : List Nat) (q : Nat) (h : pre.length ≤ q) :
    bucketsToCounters pre.reverse q = pre ++ List.replicate (q - pre.length) 0 := by
  show List.take (max q pre.reverse.reverse.length) _ = _
  rw [List.reverse_reverse]
  apply List.take_of_length_le
  rw [List.length_append, List.length_replicate, Nat.add_sub_cancel' h]
  exact Nat.le_max_left _ _

theorem FindInv.leaf {q firstN fuel : Nat} {pre : List Nat} {mult : Nat}
    (h : FindInv q firstN fuel 0 pre mult) :
    (bucketsToCounters pre.reverse q).length = q ∧ (bucketsToCounters pre.reverse q).sum = firstN ∧
    countRemaining (bucketsToCounters pre.reverse q) = mult ∧
    bucketsToCounters pre.reverse q = pre ++ List.replicate (q - pre.length) 0 := by
  have hle : pre.length ≤ q := Nat.le.intro h.fuel
  have e := bucketsToCounters_eq pre q hle
  have hz : (List.replicate (q - pre.length) 0).sum = 0 := by rw [List.sum_replicate_nat, Nat.mul_zero]
  refine ⟨?_, ?_, ?_, e⟩
  · rw [e, List.length_append, List.length_replicate]; exact Nat.add_sub_cancel' hle
  · rw [e, List.sum_append, hz]; exact h.sum
  · rw [e, countRemaining_append, countRemaining_of_sum_zero _ hz, hz, h.mul, Nat.mul_one]

theorem filter_ge_split (p : List Nat) (s : Nat) :
    (p.filter (fun x => decide (s ≤ x))).length =
      p.count s + (p.filter (fun x => decide (s + 1 ≤ x))).length := by
  induction p with
  | nil => rfl
  | cons x p ih =>
    simp only [List.filter_cons, List.count_cons, decide_eq_true_eq, beq_iff_eq]
    rcases Nat.lt_trichotomy x s with h | rfl | h
    · rw [if_neg (Nat.not_le.2 h), if_neg (Nat.ne_of_lt h), if_neg (Nat.not_le.2 (Nat.lt_succ_of_lt h)),
        ih]
      rfl
    · rw [if_pos (Nat.le_refl x), if_pos rfl, if_neg (Nat.not_succ_le_self x), List.length_cons, ih,
        Nat.add_right_comm]
    · rw [if_pos (Nat.le_of_lt h), if_neg (Nat.ne_of_gt h), if_pos (Nat.succ_le_of_lt h), List.length_cons,
        List.length_cons, ih]
      rfl

theorem Avail.at_add_after (a : Avail) (q start : Nat) (hs : start < q) :
    a.at start + a.after q (start + 1) = a.after q start := by
  cases a with
  | uniform m =>
    show m + (q - (start + 1)) * m = (q - start) * m
    rw [Nat.add_comm, ← Nat.add_one_mul, Nat.sub_add_eq, Nat.sub_add_cancel (Nat.sub_pos_of_lt hs)]
  | counters cs =>
    show cs.getD start 0 + (cs.drop (start + 1)).sum = (cs.drop start).sum
    rw [List.getD_eq_getElem?_getD]
    by_cases h : start < cs.length
    · rw [List.drop_eq_getElem_cons h, List.sum_cons, List.getElem?_eq_getElem h]
      rfl
    · have h' : cs.length ≤ start := Nat.le_of_not_lt h
      rw [List.getElem?_eq_none h', List.drop_of_length_le h',
        List.drop_of_length_le (Nat.le_succ_of_le h')]
      rfl

theorem filter_le_after (a : Avail) (q : Nat) {p : List Nat} (hlt : ∀ x ∈ p, x < q) (start : Nat)
    (hcnt : ∀ i, start ≤ i → i < q → p.count i ≤ a.at i) :
    (p.filter (fun x => decide (start ≤ x))).length ≤ a.after q start := by
  generalize hd : q - start = d
  induction d generalizing start with
  | zero =>
    have hq : q ≤ start := Nat.sub_eq_zero_iff_le.1 hd
    rw [List.filter_eq_nil_iff.2 fun x hx h =>
      Nat.lt_irrefl x (Nat.lt_of_lt_of_le (hlt x hx) (Nat.le_trans hq (of_decide_eq_true h)))]
    exact Nat.zero_le _
  | succ d ih =>
    have hs : start < q := Nat.lt_of_sub_eq_succ hd
    rw [filter_ge_split]
    exact Nat.le_trans (Nat.add_le_add (hcnt start (Nat.le_refl _) hs)
      (ih (start + 1) (fun i hi hq => hcnt i (Nat.le_of_succ_le hi) hq)
        (by rw [Nat.sub_add_eq, hd, Nat.add_sub_cancel])))
      (Nat.le_of_eq (Avail.at_add_after a q start hs))

/-- a word that the search below `(start, pre)` with `need` still to place must find -/
structure Fits (q : Nat) (a : Avail) (start need : Nat) (pre p : List Nat) : Prop where
  lt : ∀ x ∈ p, x < q
  placed : ∀ i, i < start → p.count i = pre.getD i 0
  avail : ∀ i, start ≤ i → i < q → p.count i ≤ a.at i
  rest : (p.filter (fun x => decide (start ≤ x))).length = need

theorem Fits.count_start {q : Nat} {a : Avail} {need v : Nat} {pre p : List Nat}
    (h : Fits q a (pre.length + 1) need (pre ++ [v]) p) : p.count pre.length = v :=
  (h.placed _ (Nat.lt_succ_self _)).trans (getD_append_single _ _)

theorem fits_step_iff {q : Nat} {a : Avail} {need : Nat} {pre : List Nat} (p : List Nat) (hs : pre.length < q) :
    Fits q a pre.length need pre p ↔
      ∃ v, v < min (a.at pre.length) need + 1 ∧ Fits q a (pre.length + 1) (need - v) (pre ++ [v]) p := by
  have hsplit := filter_ge_split p pre.length
  constructor
  · rintro ⟨hlt, hplaced, havail, hrest⟩
    have hle : p.count pre.length ≤ need := by rw [← hrest, hsplit]; exact Nat.le_add_right _ _
    refine ⟨p.count pre.length, Nat.lt_succ_of_le (Nat.le_min.2 ⟨havail _ (Nat.le_refl _) hs, hle⟩), hlt,
      fun i hi => ?_, fun i hi hq => havail i (Nat.le_of_succ_le hi) hq, ?_⟩
    · rcases Nat.lt_succ_iff_lt_or_eq.1 hi with hi | rfl
      · rw [hplaced i hi]
        exact (getD_append_left _ hi).symm
      · exact (getD_append_single _ _).symm
    · rw [← hrest, hsplit, Nat.add_sub_cancel_left]
  · rintro ⟨v, hv, hfit⟩
    have hc := hfit.count_start
    obtain ⟨hva, hvn⟩ := Nat.le_min.1 (Nat.le_of_lt_succ hv)
    obtain ⟨hlt, hplaced, havail, hrest⟩ := hfit
    refine ⟨hlt, fun i hi => ?_, fun i hi hq => ?_, ?_⟩
    · rw [hplaced i (Nat.lt_succ_of_lt hi)]
      exact getD_append_left _ hi
    · rcases Nat.eq_or_lt_of_le hi with rfl | hi
      · exact hc ▸ hva
      · exact havail i hi hq
    · rw [hsplit, hrest, hc, Nat.add_sub_cancel' hvn]

theorem Fits.admissible {q : Nat} {a : Avail} {start need : Nat} {pre p : List Nat}
    (h : Fits q a start need pre p) (hneed : need ≠ 0) : start < q ∧ ¬ a.after q start < need := by
  obtain ⟨hlt, -, havail, hrest⟩ := h
  have hs : start < q := by
    cases hf : p.filter (fun x => decide (start ≤ x)) with
    | nil => rw [hf] at hrest; exact absurd hrest.symm hneed
    | cons x l =>
      have hx := List.mem_filter.1 (hf ▸ List.mem_cons_self (a := x) (l := l))
      exact Nat.lt_of_le_of_lt (of_decide_eq_true hx.2) (hlt x hx.1)
  exact ⟨hs, Nat.not_lt.2 (hrest ▸ filter_le_after a q hlt start havail)⟩

theorem fits_leaf_iff {q : Nat} {a : Avail} {firstN fuel : Nat} {pre : List Nat} {mult : Nat}
    (hinv : FindInv q firstN fuel 0 pre mult) (p : List Nat) :
    Fits q a pre.length 0 pre p ↔ IsMultisetPermutation (bucketsToCounters pre.reverse q) p := by
  obtain ⟨hl, -, -, he⟩ := hinv.leaf
  have hlow : ∀ i, i < pre.length → (bucketsToCounters pre.reverse q).getD i 0 = pre.getD i 0 :=
    fun i hi => he ▸ getD_append_left _ hi
  have hhigh : ∀ i, pre.length ≤ i → (bucketsToCounters pre.reverse q).getD i 0 = 0 :=
    fun i hi => he ▸ getD_append_replicate _ hi
  constructor
  · rintro ⟨hlt, hplaced, -, hrest⟩
    refine ⟨fun x hx => by rw [hl]; exact hlt x hx, fun i _ => ?_⟩
    rcases Nat.lt_or_ge i pre.length with hi | hi
    · rw [hlow i hi, hplaced i hi]
    · rw [hhigh i hi]
      refine List.count_eq_zero.2 (fun hmem => ?_)
      have := List.filter_eq_nil_iff.1 (List.length_eq_zero_iff.1 hrest) i hmem
      exact this (decide_eq_true hi)
  · rintro ⟨hmem, hcnt⟩
    rw [hl] at hmem hcnt
    refine ⟨hmem, fun i hi => ?_, fun i hi hq => ?_, ?_⟩
    · rw [hcnt i (Nat.lt_of_lt_of_le hi (Nat.le.intro hinv.fuel)), hlow i hi]
    · rw [hcnt i hq, hhigh i hi]; exact Nat.zero_le _
    · refine List.length_eq_zero_iff.2 (List.filter_eq_nil_iff.2 (fun x hx hge => ?_))
      have := hcnt x (hmem x hx)
      rw [hhigh x (of_decide_eq_true hge)] at this
      exact List.count_eq_zero.1 this hx

theorem findLeaf_searches {q : Nat} {a : Avail} {firstN fuel : Nat} {pre : List Nat} {mult : Nat}
    (hinv : FindInv q firstN fuel 0 pre mult) :
    Searches mult (findLeaf q firstN pre.reverse mult) (Fits q a pre.length 0 pre) := by
  obtain ⟨hl, hs, hm, -⟩ := hinv.leaf
  have E := constructWithCopies_bij (bucketsToCounters pre.reverse q)
  rw [hl, hs, hm] at E
  have W := (E.congr_wrap (fits_leaf_iff (a := a) hinv)).wrap (γ := Except PyErr (Sum (List Nat) Nat))
    (G' := fun p => .ok (.inl p)) (fun | .ok p => .ok (.inl p) | .error e => .error e) (fun _ => rfl)
    fun _ _ e => Sum.inl.inj (Except.ok.inj e)
  exact ⟨W.of_eq fun j hj => if_pos hj, fun x hx => if_neg (Nat.not_lt.2 hx)⟩

theorem findFrom_searches (a : Avail) {q firstN fuel need : Nat} {pre : List Nat} {mult : Nat}
    (hinv : FindInv q firstN fuel need pre mult) :
    Searches (countFrom a q fuel pre.length need * mult)
      (findFrom a q firstN fuel pre.length need pre.reverse mult) (Fits q a pre.length need pre) := by
  -- where the walk does not branch: a leaf, or a node it gives up at
  have base : ∀ (fuel need : Nat) (pre : List Nat) (mult : Nat),
      FindInv q firstN fuel need pre mult →
      ¬ (need ≠ 0 ∧ pre.length < q ∧ ¬ a.after q pre.length < need) →
      Searches (countFrom a q fuel pre.length need * mult)
        (findFrom a q firstN fuel pre.length need pre.reverse mult) (Fits q a pre.length need pre) := by
    intro fuel need pre mult hinv h
    by_cases hneed : need = 0
    · subst hneed
      rw [countFrom_zero_need, Nat.one_mul, funext (findFrom_zero_need a q firstN fuel _ _ mult)]
      exact findLeaf_searches hinv
    · have hc : ¬ (pre.length < q ∧ ¬ a.after q pre.length < need) := fun hc => h ⟨hneed, hc⟩
      rw [countFrom_of_not a q _ _ need hneed hc, Nat.zero_mul]
      exact ⟨BijOn.zero (fun e ⟨p, _, hp⟩ => hc (hp.admissible hneed)),
        fun x _ => findFrom_of_not a q firstN _ _ need _ mult x hneed hc⟩
  induction fuel generalizing need pre mult with
  | zero => exact base _ _ _ _ hinv (fun h => Nat.ne_of_lt h.2.1 hinv.fuel)
  | succ fuel ih =>
    by_cases hc : need ≠ 0 ∧ pre.length < q ∧ ¬ a.after q pre.length < need
    · -- one branch for every number `v` of uses of choice `pre.length`
      obtain ⟨hneed, hs, ha⟩ := hc
      rw [countFrom_succ a q fuel _ need hneed hs ha, Nat.mul_comm, ← psum_mul,
        psum_congr (fun v _ => (Nat.mul_comm ..).trans (Nat.mul_assoc ..)),
        funext (fun x => findFrom_succ a q firstN fuel pre.length need pre.reverse mult x hneed hs ha)]
      refine Searches.foldl (fun v hv => ?_)
        (fun v v' p hfit hfit' => ?_) (fun p => fits_step_iff p hs)
      · have := ih (hinv.step v (Nat.le_trans (Nat.le_of_lt_succ hv) (Nat.min_le_right _ _)))
        rwa [List.length_append, List.reverse_concat] at this
      · rw [← hfit.count_start, ← hfit'.count_start]
    · exact base _ _ _ _ hinv hc

theorem fits_top_iff (q : Nat) (a : Avail) (firstN : Nat) (w : List Nat) :
    Fits q a 0 firstN [] w ↔ IsBoundedPrefix q a firstN w := by
  have hf : w.filter (fun x => decide (0 ≤ x)) = w :=
    List.filter_eq_self.2 (fun x _ => decide_eq_true (Nat.zero_le x))
  exact ⟨fun h => ⟨hf ▸ h.rest, h.lt, fun i hi => h.avail i (Nat.zero_le _) hi⟩,
    fun h => ⟨h.2.1, fun i hi => absurd hi (Nat.not_lt_zero _), fun i _ hi => h.2.2 i hi, hf.symm ▸ h.1⟩⟩

theorem findFrom_bij (a : Avail) (q firstN : Nat) :
    BijOn (findFrom a q firstN q 0 firstN [] 1) (· < countFrom a q q 0 firstN)
      (fun e => ∃ w, e = .ok (.inl w) ∧ IsBoundedPrefix q a firstN w) :=
  Nat.mul_one (countFrom a q q 0 firstN) ▸
    (findFrom_searches a (FindInv.init q firstN)).1.congr_wrap
      fun w => (fits_top_iff q a firstN w).symm

/-- how `jthPrefix` reports what the search delivers -/
def found : Except PyErr (Sum (List Nat) Nat) → Except PyErr (Option (List Nat))
  | .ok (.inl p) => .ok (some p)
  | .ok (.inr _) => .ok none
  | .error e => .error e

theorem found_bij (a : Avail) (q firstN : Nat) :
    BijOn (fun j => found (findFrom a q firstN q 0 firstN [] 1 j)) (· < countFrom a q q 0 firstN)
      (fun e => ∃ w, e = .ok (some w) ∧ IsBoundedPrefix q a firstN w) :=
  (findFrom_bij a q firstN).wrap found (fun _ => rfl) (fun _ _ e => Option.some.inj (Except.ok.inj e))

theorem jthPrefix_bij (q : Nat) (a : Avail) (firstN : Nat) :
    BijOn (jthPrefix q a firstN) (· < countPrefixes q a firstN)
      (fun e => ∃ w, e = .ok (some w) ∧ IsBoundedPrefix q a firstN w) := by
  cases a with
  | counters cs => exact found_bij (.counters cs) q firstN
  | uniform m =>
    by_cases h : firstN ≤ m
    · -- at most `m` letters: every word over `q` choices is admissible
      have hkind : ∀ w, IsBoundedPrefix q (.uniform m) firstN w ↔ IsWord q firstN w := fun w =>
        ⟨fun hw => ⟨hw.1, hw.2.1⟩, fun hw => ⟨hw.1, hw.2, fun i _ =>
          Nat.le_trans List.count_le_length (hw.1 ▸ h)⟩⟩
      rw [show countPrefixes q (.uniform m) firstN = q ^ firstN from if_pos h]
      exact (((jthCombination_bij firstN q).wrap (Except.map some) (fun _ => rfl)
        (fun _ _ e => Option.some.inj (Except.ok.inj e))).of_eq
        fun j _ => (if_pos h).trans (by cases jthCombination firstN q j <;> rfl)).congr_wrap hkind
    · rw [show countPrefixes q (.uniform m) firstN = countFrom (.uniform m) q q 0 firstN from if_neg h]
      exact (found_bij (.uniform m) q firstN).of_eq fun j _ => if_neg h

end SPModel.Comb
