/-
  Permutation prefixes.  The inversion sequence and `constructFrom` are read together (`permFrom`): the digit
  `j % len` picks the first number, and `j / len` unranks the rest over what is left (`List.eraseIdx`).
-/
import SPProofs.Comb.Radix
import Mathlib.Data.List.Perm.Basic
import Mathlib.Data.List.Nodup

namespace SPModel.Comb

theorem removeNth_of_lt {l : List Nat} {i : Nat} (h : i < l.length) :
    removeNth l i = some (l.getD i 0, l.eraseIdx i) := by
  induction l generalizing i with
  | nil => exact absurd h (Nat.not_lt_zero i)
  | cons a l ih =>
    cases i with
    | zero => rfl
    | succ i =>
      show (match removeNth l i with | some (y, r) => some (y, a :: r) | none => none) = _
      rw [ih (Nat.lt_of_succ_lt_succ h)]; rfl

/-- `jthPermutationPrefix` started from any list of unused numbers -/
def permFrom (unused : List Nat) (m j : Nat) : Except PyErr (List Nat) :=
  match jthInversionSequence unused.length m j with
  | .ok inv => constructFrom unused inv
  | .error e => .error e

theorem jthPermutationPrefix_eq (n m j : Nat) :
    jthPermutationPrefix n m j = permFrom (List.range n) m j := by
  rw [permFrom, List.length_range]; rfl

theorem jthInversionSequence_succ {n : Nat} (hn : n ≠ 0) (m j : Nat) :
    jthInversionSequence n (m + 1) j = (jthInversionSequence (n - 1) m (j / n)).map (j % n :: ·) := by
  refine (if_neg hn).trans ?_
  cases jthInversionSequence (n - 1) m (j / n) <;> rfl

theorem permFrom_succ {unused : List Nat} (h : 0 < unused.length) (m j : Nat) :
    permFrom unused (m + 1) j = (permFrom (unused.eraseIdx (j % unused.length)) m (j / unused.length)).map
      (unused.getD (j % unused.length) 0 :: ·) := by
  have hv := Nat.mod_lt j h
  rw [permFrom, permFrom, jthInversionSequence_succ (Nat.ne_of_gt h), List.length_eraseIdx_of_lt hv]
  cases jthInversionSequence (unused.length - 1) m (j / unused.length) with
  | error e => rfl
  | ok inv =>
    simp only [Except.map, constructFrom, removeNth_of_lt hv]
    cases constructFrom (unused.eraseIdx (j % unused.length)) inv <;> rfl

def PrefixOver (unused : List Nat) (m : Nat) (w : List Nat) : Prop :=
  w.length = m ∧ w.Subperm unused

theorem prefixOver_cons {unused : List Nat} {v : Nat} (hv : v < unused.length) (m : Nat) (r : List Nat) :
    PrefixOver unused (m + 1) (unused.getD v 0 :: r) ↔ PrefixOver (unused.eraseIdx v) m r := by
  rw [PrefixOver, PrefixOver, List.length_cons, Nat.succ_inj, getD_eq_getElem 0 hv,
    ← (List.getElem_cons_eraseIdx_perm hv).subperm_left, List.subperm_cons]

theorem permFrom_ok {unused : List Nat} {m : Nat} (hm : m ≤ unused.length) (j : Nat) :
    Ok (PrefixOver unused m) (permFrom unused m j) := by
  induction m generalizing unused j with
  | zero => exact ⟨[], rfl, rfl, List.nil_subperm⟩
  | succ m ih =>
    have hpos : 0 < unused.length := Nat.lt_of_lt_of_le (Nat.succ_pos m) hm
    have hv := Nat.mod_lt j hpos
    obtain ⟨w, hw, hk⟩ := ih (unused := unused.eraseIdx (j % unused.length))
      (by rw [List.length_eraseIdx_of_lt hv]; exact Nat.le_sub_one_of_lt hm) (j / unused.length)
    exact ⟨_ :: w, by rw [permFrom_succ hpos m j, hw]; rfl, (prefixOver_cons hv m w).2 hk⟩

theorem permFrom_bij {unused : List Nat} (hu : unused.Nodup) (m : Nat) :
    BijOn (permFrom unused m) (· < fallingProd unused.length m) (Ok (PrefixOver unused m)) := by
  induction m generalizing unused with
  | zero =>
    exact BijOn.one ⟨[], rfl, rfl, List.nil_subperm⟩
      (fun _ ⟨w, hw, hl, _⟩ => by rw [hw, List.eq_nil_of_length_eq_zero hl]; rfl)
  | succ m ih =>
    show BijOn _ (· < unused.length * fallingProd (unused.length - 1) m) _
    refine (BijOn.divMod (M := fallingProd (unused.length - 1) m)
      (g := fun v y => (permFrom (unused.eraseIdx v) m y).map (unused.getD v 0 :: ·))
      (E := fun v e => ∃ r, e = .ok (unused.getD v 0 :: r) ∧ PrefixOver (unused.eraseIdx v) m r)
      (fun v hv => ?_) ?_ (fun e => ⟨?_, ?_⟩)).of_eq (fun j hj => ?_)
    · have := (ih (hu.eraseIdx v)).consOk (unused.getD v 0)
      rwa [List.length_eraseIdx_of_lt hv] at this
    · rintro v v' _ hv hv' ⟨r, rfl, -⟩ ⟨r', e, -⟩
      exact nodup_getD_inj hu hv hv' (List.cons.inj (Except.ok.inj e)).1
    · rintro ⟨w, rfl, hw⟩
      cases w with
      | nil => exact absurd hw.1 (Nat.succ_ne_zero m).symm
      | cons x r =>
        obtain ⟨v, hv, rfl⟩ := exists_getD_of_mem (hw.2.subset List.mem_cons_self)
        exact ⟨v, hv, r, rfl, (prefixOver_cons hv m r).1 hw⟩
    · rintro ⟨v, hv, r, rfl, hr⟩
      exact ⟨_, rfl, (prefixOver_cons hv m r).2 hr⟩
    · exact permFrom_succ (Nat.pos_of_ne_zero fun h => by rw [h, Nat.zero_mul] at hj; exact Nat.not_lt_zero j hj) m j

theorem prefixOver_range (n m : Nat) (w : List Nat) :
    PrefixOver (List.range n) m w ↔ IsPermutationPrefix n m w :=
  and_congr_right fun _ =>
    ⟨fun h => ⟨fun _ hx => List.mem_range.1 (h.subset hx),
      let ⟨_, hp, hs⟩ := h; hp.nodup_iff.1 (hs.nodup List.nodup_range)⟩,
     fun h => List.subperm_of_subset h.2 fun x hx => List.mem_range.2 (h.1 x hx)⟩

theorem jthPermutationPrefix_ok (n m j : Nat) (hm : m ≤ n) :
    Ok (IsPermutationPrefix n m) (jthPermutationPrefix n m j) := by
  obtain ⟨w, hw, hk⟩ := permFrom_ok (unused := List.range n) (m := m) (by rwa [List.length_range]) j
  exact ⟨w, (jthPermutationPrefix_eq n m j).trans hw, (prefixOver_range n m w).1 hk⟩

theorem jthPermutationPrefix_bij (n m : Nat) :
    BijOn (jthPermutationPrefix n m) (· < fallingProd n m) (Ok (IsPermutationPrefix n m)) := by
  have := permFrom_bij (List.nodup_range (n := n)) m
  rw [List.length_range] at this
  exact (this.of_eq (fun j _ => jthPermutationPrefix_eq n m j)).congr_wrap
    fun w => (prefixOver_range n m w).symm

/- The inversion sequence alone is the mixed-radix expansion over `sizesDesc`; `jthPermutationPrefix_bij` does
   not use this. -/

def sizesDesc : Nat → Nat → List Nat
  | _, 0 => []
  | n, m + 1 => n :: sizesDesc (n - 1) m

theorem sizesDesc_length (n m : Nat) : (sizesDesc n m).length = m := by
  induction m generalizing n with
  | zero => rfl
  | succ m ih => exact congrArg Nat.succ (ih (n - 1))

theorem prod_sizesDesc (n m : Nat) : prod (sizesDesc n m) = fallingProd n m := by
  induction m generalizing n with
  | zero => rfl
  | succ m ih => exact congrArg (n * ·) (ih (n - 1))

theorem jthInversionSequence_eq (n m j : Nat) :
    jthInversionSequence n m j = extractComponents (sizesDesc n m) j := by
  induction m generalizing n j with
  | zero => rfl
  | succ m ih =>
    rcases Nat.eq_zero_or_pos n with rfl | hn
    · rfl
    · rw [jthInversionSequence_succ (Nat.ne_of_gt hn), ih]
      exact (extractComponents_cons n _ j (Nat.ne_of_gt hn)).symm

theorem inBox_length {sizes cs : List Nat} (h : InBox sizes cs) : cs.length = sizes.length := by
  induction sizes generalizing cs with
  | nil => cases cs with | nil => rfl | cons c cs => exact h.elim
  | cons s ss ih => cases cs with | nil => exact h.elim | cons c cs => exact congrArg Nat.succ (ih h.2)

end SPModel.Comb
