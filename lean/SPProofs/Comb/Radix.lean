/-
  Mixed radix (`extractComponents`): the digit `j % s` chooses among `s` interleaved blocks.
  Fixed radix (`jthCombination`) is the mixed radix with all sizes equal, read backwards.
-/
import SPProofs.Comb.Base
import SPProofs.Comb.Enum

namespace SPModel.Comb

theorem prod_cons (s : Nat) (ss : List Nat) : prod (s :: ss) = s * prod ss := rfl

theorem extractComponents_cons (s : Nat) (ss : List Nat) (n : Nat) (hs : s ≠ 0) :
    extractComponents (s :: ss) n = (extractComponents ss (n / s)).map (n % s :: ·) := by
  refine (if_neg hs).trans ?_
  cases extractComponents ss (n / s) <;> rfl

theorem extractComponents_ok (sizes : List Nat) (hpos : ∀ s ∈ sizes, 0 < s) (n : Nat) :
    Ok (InBox sizes) (extractComponents sizes n) := by
  induction sizes generalizing n with
  | nil => exact ⟨[], rfl, trivial⟩
  | cons s ss ih =>
    have hs : 0 < s := hpos s List.mem_cons_self
    obtain ⟨cs, hcs, hbox⟩ := ih (fun x hx => hpos x (List.mem_cons_of_mem _ hx)) (n / s)
    refine ⟨n % s :: cs, ?_, Nat.mod_lt _ hs, hbox⟩
    rw [extractComponents_cons s ss n (Nat.ne_of_gt hs), hcs]; rfl

theorem extractComponents_bij (sizes : List Nat) :
    BijOn (extractComponents sizes) (· < prod sizes) (Ok (InBox sizes)) := by
  induction sizes with
  | nil =>
    refine BijOn.one ⟨[], rfl, trivial⟩ ?_
    rintro _ ⟨cs, rfl, hcs⟩
    cases cs with
    | nil => rfl
    | cons c cs => exact hcs.elim
  | cons s ss ih =>
    rw [prod_cons]
    by_cases hs : s = 0
    · rw [hs, Nat.zero_mul]
      refine BijOn.zero ?_
      rintro _ ⟨cs, rfl, hcs⟩
      cases cs with
      | nil => exact hcs
      | cons c cs => exact Nat.not_lt_zero c (hs ▸ hcs.1)
    · refine (BijOn.divMod (fun v _ => ih.consOk v) ?_ (fun e => ⟨?_, ?_⟩)).of_eq
        (fun n _ => extractComponents_cons s ss n hs)
      · rintro v v' _ _ _ ⟨r, rfl, -⟩ ⟨r', e, -⟩
        exact (List.cons.inj (Except.ok.inj e)).1
      · rintro ⟨cs, rfl, hcs⟩
        cases cs with
        | nil => exact hcs.elim
        | cons c cs => exact ⟨c, hcs.1, cs, rfl, hcs.2⟩
      · rintro ⟨v, hv, r, rfl, hr⟩
        exact ⟨_, rfl, hv, hr⟩

theorem isWord_cons (n l c : Nat) (r : List Nat) :
    IsWord n (l + 1) (c :: r) ↔ c < n ∧ IsWord n l r := by
  unfold IsWord
  rw [List.length_cons, Nat.succ_inj, List.forall_mem_cons]
  exact and_left_comm

theorem isWord_reverse {n l : Nat} {w : List Nat} : IsWord n l w.reverse ↔ IsWord n l w := by
  unfold IsWord
  rw [List.length_reverse]
  exact and_congr_right fun _ => forall_congr' fun x => by rw [List.mem_reverse]

theorem prod_replicate (n l : Nat) : prod (List.replicate l n) = n ^ l := by
  induction l with
  | zero => rfl
  | succ l ih => rw [List.replicate_succ, prod_cons, ih, Nat.pow_succ, Nat.mul_comm]

theorem inBox_replicate (n l : Nat) (w : List Nat) : InBox (List.replicate l n) w ↔ IsWord n l w := by
  induction l generalizing w with
  | zero =>
    cases w with
    | nil => exact ⟨fun _ => ⟨rfl, fun _ h => nomatch h⟩, fun _ => trivial⟩
    | cons c r => exact ⟨fun h => h.elim, fun h => absurd h.1 (Nat.succ_ne_zero _)⟩
  | succ l ih =>
    cases w with
    | nil => exact ⟨fun h => h.elim, fun h => absurd h.1 (Nat.succ_ne_zero l).symm⟩
    | cons c r => rw [isWord_cons, ← ih]; rfl

theorem extractComponents_replicate (n l j : Nat) (hn : 0 < n ∨ l = 0) :
    extractComponents (List.replicate l n) j = .ok (digitsLsb n l j) := by
  induction l generalizing j with
  | zero => rfl
  | succ l ih =>
    have hn : 0 < n := hn.resolve_right (Nat.succ_ne_zero l)
    rw [List.replicate_succ, extractComponents_cons _ _ _ (Nat.ne_of_gt hn), ih _ (Or.inl hn)]; rfl

theorem jthCombination_eq (l n j : Nat) (hn : 0 < n ∨ l = 0) :
    jthCombination l n j = (extractComponents (List.replicate l n) j).map List.reverse := by
  rw [jthCombination, if_neg (by omega), extractComponents_replicate n l j hn]; rfl

theorem jthCombination_ok (l n j : Nat) (hn : 0 < n) : Ok (IsWord n l) (jthCombination l n j) := by
  obtain ⟨d, hd, hbox⟩ := extractComponents_ok (List.replicate l n)
    (fun s hs => List.eq_of_mem_replicate hs ▸ hn) j
  exact ⟨d.reverse, by rw [jthCombination_eq l n j (Or.inl hn), hd]; rfl,
    isWord_reverse.2 ((inBox_replicate n l d).1 hbox)⟩

theorem jthCombination_bij (l n : Nat) :
    BijOn (jthCombination l n) (· < n ^ l) (Ok (IsWord n l)) := by
  by_cases hn : 0 < n ∨ l = 0
  · have h := (extractComponents_bij (List.replicate l n)).wrap (G' := fun d => .ok d.reverse)
      (Except.map List.reverse) (fun _ => rfl) (fun _ _ e => List.reverse_inj.1 (Except.ok.inj e))
    rw [prod_replicate] at h
    refine (h.of_eq fun j _ => jthCombination_eq l n j hn).congr fun e => ⟨?_, ?_⟩
    · rintro ⟨w, rfl, hw⟩
      exact ⟨w.reverse, by rw [List.reverse_reverse], (inBox_replicate n l _).2 (isWord_reverse.2 hw)⟩
    · rintro ⟨d, rfl, hd⟩
      exact ⟨_, rfl, isWord_reverse.2 ((inBox_replicate n l d).1 hd)⟩
  · obtain ⟨hn, hl⟩ := not_or.1 hn
    rw [Nat.eq_zero_of_not_pos hn, Nat.zero_pow (Nat.pos_of_ne_zero hl)]
    refine BijOn.zero ?_
    rintro _ ⟨w, rfl, hw, hlt⟩
    cases w with
    | nil => exact hl hw.symm
    | cons c r => exact Nat.not_lt_zero c (hlt c List.mem_cons_self)

end SPModel.Comb
