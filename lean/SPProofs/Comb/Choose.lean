/-
  Combinations without replacement: `nChooseM` is the binomial coefficient and
  `jthCombinationNoRepl` unranks the combinatorial number system: the
  combinations with largest element `c` form a block of `C(c, m)` indices.
-/
import SPProofs.Comb.Base
import SPProofs.Comb.Enum

namespace SPModel.Comb

theorem nChooseM_eq_choose (n m : Nat) : nChooseM n m = Nat.choose n m := by
  unfold nChooseM
  by_cases h1 : n < m
  · rw [if_pos h1, Nat.choose_eq_zero_of_lt h1]
  · rw [if_neg h1]
    by_cases h2 : n = m
    · rw [if_pos h2, h2, Nat.choose_self]
    · rw [if_neg h2, fallingProd_eq_descFactorial, factorial_eq,
        Nat.choose_eq_descFactorial_div_factorial]

theorem psum_choose (m n : Nat) : psum (fun c => Nat.choose c m) n = Nat.choose n (m + 1) := by
  induction n with
  | zero => rfl
  | succ n ih => rw [psum_succ, ih, Nat.choose_succ_succ, Nat.add_comm]

theorem climb_hit {n k j c : Nat} (hc : c < n) (h1 : Nat.choose c k ≤ j)
    (h2 : j < Nat.choose (c + 1) k) (fuel c0 : Nat) (h0 : c0 ≤ c) (hf : c ≤ c0 + fuel) :
    climb n k j fuel c0 = c := by
  induction fuel generalizing c0 with
  | zero => exact Nat.le_antisymm h0 hf
  | succ fuel ih =>
    rcases Nat.lt_or_eq_of_le h0 with hlt | rfl
    · refine (if_pos ⟨Nat.lt_of_le_of_lt hlt hc, ?_⟩).trans (ih (c0 + 1) hlt (by rw [Nat.add_right_comm]; exact hf))
      rw [nChooseM_eq_choose]; exact Nat.le_trans (Nat.choose_le_choose k hlt) h1
    · exact if_neg fun h => Nat.not_le.2 h2 (nChooseM_eq_choose .. ▸ h.2)

theorem isDecreasingCombination_succ (n m : Nat) (w : List Nat) :
    IsDecreasingCombination n (m + 1) w ↔
      ∃ c, c < n ∧ ∃ r, IsDecreasingCombination c m r ∧ c :: r = w := by
  constructor
  · rintro ⟨hl, hlt, hp⟩
    cases w with
    | nil => exact absurd hl (Nat.succ_ne_zero m).symm
    | cons c r =>
      obtain ⟨hp1, hp2⟩ := List.pairwise_cons.1 hp
      exact ⟨c, hlt c List.mem_cons_self, r, ⟨Nat.succ.inj hl, hp1, hp2⟩, rfl⟩
  · rintro ⟨c, hc, r, ⟨hl, hlt, hp⟩, rfl⟩
    refine ⟨congrArg Nat.succ hl, fun x hx => ?_, List.pairwise_cons.2 ⟨hlt, hp⟩⟩
    rcases List.mem_cons.1 hx with rfl | hx
    · exact hc
    · exact Nat.lt_trans (hlt x hx) hc

/-- for every `n' ≤ n`: the recursive call keeps `n` and lowers only the bound -/
theorem jthCombinationNoRepl_below (n m : Nat) {n' : Nat} (hn' : n' ≤ n) :
    BijOn (jthCombinationNoRepl n m) (· < Nat.choose n' m) (IsDecreasingCombination n' m) := by
  induction m generalizing n' with
  | zero =>
    rw [Nat.choose_zero_right]
    exact BijOn.one ⟨rfl, fun _ h => (nomatch h), List.Pairwise.nil⟩
      (fun w hw => List.eq_nil_of_length_eq_zero hw.1)
  | succ m ih =>
    rw [← psum_choose]
    refine BijOn.concat (g := fun c y => c :: jthCombinationNoRepl n m y)
      (E := fun c w => ∃ r, IsDecreasingCombination c m r ∧ c :: r = w)
      (fun c hc => (ih (Nat.le_trans (Nat.le_of_lt hc) hn')).map (c :: ·) (fun _ _ _ _ e => (List.cons.inj e).2))
      (fun c y hc hy => ?_) ?_ (isDecreasingCombination_succ n' m)
    · -- a non-empty block starts at `c ≥ m`, where the loop starts
      have hmc : m ≤ c := Nat.le_of_not_lt fun h => Nat.not_lt_zero y (Nat.choose_eq_zero_of_lt h ▸ hy)
      have hcn : c < n := Nat.lt_of_lt_of_le hc hn'
      have hcl : climb n (m + 1) (Nat.choose c (m + 1) + y) n m = c :=
        climb_hit hcn (Nat.le_add_right _ y)
          (by rw [Nat.choose_succ_succ, Nat.add_comm]; exact Nat.add_lt_add_right hy _) n m hmc
          (Nat.le_trans (Nat.le_of_lt hcn) (Nat.le_add_left n m))
      rw [psum_choose, jthCombinationNoRepl]
      simp only [hcl, nChooseM_eq_choose, Nat.add_sub_cancel_left]
    · rintro c c' _ _ _ ⟨r, -, rfl⟩ ⟨r', -, e⟩
      exact ((List.cons.inj e).1).symm

theorem jthCombinationNoRepl_bij (n m : Nat) :
    BijOn (jthCombinationNoRepl n m) (· < nChooseM n m) (IsDecreasingCombination n m) :=
  nChooseM_eq_choose n m ▸ jthCombinationNoRepl_below n m (Nat.le_refl n)

end SPModel.Comb
