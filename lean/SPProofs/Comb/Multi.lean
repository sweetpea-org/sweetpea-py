/-
  Permutations of a multiset: `countRemaining` is the multinomial coefficient
  and `constructWithCopies` unranks the arrangements in lexicographic order.
-/
import SPProofs.Comb.Base
import SPProofs.Comb.Enum

namespace SPModel.Comb

def factorialProd : List Nat → Nat
  | [] => 1
  | c :: cs => factorial c * factorialProd cs

theorem factorialProd_cons (c : Nat) (cs : List Nat) :
    factorialProd (c :: cs) = factorial c * factorialProd cs := rfl

theorem foldl_mul_map_factorial (l : List Nat) (a : Nat) :
    (l.map factorial).foldl (· * ·) a = a * factorialProd l := by
  induction l generalizing a with
  | nil => exact (Nat.mul_one a).symm
  | cons c cs ih => rw [List.map_cons, List.foldl_cons, ih, factorialProd_cons, Nat.mul_assoc]

theorem factorialProd_pos (l : List Nat) : 0 < factorialProd l := by
  induction l with
  | nil => exact Nat.one_pos
  | cons c cs ih => exact Nat.mul_pos (factorial_pos c) ih

theorem factorialProd_dvd (cs : List Nat) : factorialProd cs ∣ factorial cs.sum := by
  induction cs with
  | nil => exact Nat.dvd_refl 1
  | cons c cs ih =>
    rw [factorialProd_cons, List.sum_cons, factorial_eq (c + cs.sum), factorial_eq c]
    exact Nat.dvd_trans (Nat.mul_dvd_mul_left _ (factorial_eq cs.sum ▸ ih))
      (Nat.factorial_mul_factorial_dvd_factorial_add c cs.sum)

theorem countRemaining_mul_factorialProd (cs : List Nat) :
    countRemaining cs * factorialProd cs = factorial cs.sum := by
  rw [countRemaining, foldl_mul_map_factorial, Nat.one_mul]
  exact Nat.div_mul_cancel (factorialProd_dvd cs)

theorem countRemaining_of_sum_zero (cs : List Nat) (h : cs.sum = 0) : countRemaining cs = 1 := by
  have := countRemaining_mul_factorialProd cs
  rw [h] at this
  exact Nat.eq_one_of_mul_eq_one_right this

theorem countRemaining_cons (c : Nat) (cs : List Nat) :
    countRemaining (c :: cs) = Nat.choose (c + cs.sum) c * countRemaining cs := by
  apply Nat.eq_of_mul_eq_mul_right (factorialProd_pos (c :: cs))
  rw [countRemaining_mul_factorialProd, factorialProd_cons, List.sum_cons, Nat.mul_assoc,
    Nat.mul_left_comm (countRemaining cs), countRemaining_mul_factorialProd, factorial_eq, factorial_eq,
    factorial_eq, ← Nat.mul_assoc, Nat.add_comm c, Nat.mul_right_comm,
    Nat.add_choose_mul_factorial_mul_factorial]

theorem countRemaining_single (s : Nat) : countRemaining [s] = 1 := by
  rw [countRemaining_cons, countRemaining_of_sum_zero [] rfl]; simp

theorem countRemaining_pair (a b : Nat) : countRemaining [a, b] = Nat.choose (a + b) a := by
  rw [countRemaining_cons, countRemaining_single, List.sum_cons, List.sum_nil, Nat.add_zero, Nat.mul_one]

theorem countInterleavings_eq (v need : Nat) (h : v ≤ need) :
    countInterleavings v need = Nat.choose need v := by
  rw [countInterleavings, countRemaining_pair, Nat.sub_add_cancel h, Nat.choose_symm h]

theorem countRemaining_append (xs ys : List Nat) :
    countRemaining (xs ++ ys) = countRemaining (xs ++ [ys.sum]) * countRemaining ys := by
  induction xs with
  | nil => simp [countRemaining_single]
  | cons x xs ih =>
    simp only [List.cons_append, countRemaining_cons, ih, List.sum_append, List.sum_cons,
      List.sum_nil, Nat.add_zero, Nat.mul_assoc]

theorem countRemaining_split (xs : List Nat) {v s : Nat} (h : v ≤ s) :
    countRemaining (xs ++ [v, s - v]) = Nat.choose s v * countRemaining (xs ++ [s]) := by
  rw [countRemaining_append, countRemaining_pair, Nat.mul_comm, List.sum_cons, List.sum_cons,
    List.sum_nil, Nat.add_zero, Nat.add_sub_cancel' h]

theorem decAt_cons_zero (c : Nat) (cs : List Nat) : decAt (c :: cs) 0 = (c - 1) :: cs := rfl

theorem decAt_cons_succ (c : Nat) (cs : List Nat) (i : Nat) : decAt (c :: cs) (i + 1) = c :: decAt cs i := rfl

theorem decAt_length (cs : List Nat) (i : Nat) : (decAt cs i).length = cs.length := by
  induction cs generalizing i with
  | nil => rfl
  | cons c cs ih =>
    cases i with
    | zero => rfl
    | succ i => exact congrArg Nat.succ (ih i)

theorem decAt_sum (cs : List Nat) (i : Nat) (h : 0 < cs.getD i 0) :
    (decAt cs i).sum + 1 = cs.sum := by
  induction cs generalizing i with
  | nil => exact absurd h (Nat.lt_irrefl 0)
  | cons c cs ih =>
    cases i with
    | zero =>
      rw [decAt_cons_zero, List.sum_cons, List.sum_cons, Nat.add_right_comm]
      exact congrArg (· + _) (Nat.sub_add_cancel h)
    | succ i => rw [decAt_cons_succ, List.sum_cons, List.sum_cons, Nat.add_assoc, ih i h]

theorem getD_eq_decAt_add (cs : List Nat) (i j : Nat) (h : 0 < cs.getD i 0) :
    cs.getD j 0 = (decAt cs i).getD j 0 + if i == j then 1 else 0 := by
  induction cs generalizing i j with
  | nil => exact absurd h (Nat.lt_irrefl 0)
  | cons c cs ih =>
    rcases i with _ | i <;> rcases j with _ | j
    · exact (Nat.sub_add_cancel h).symm
    · rfl
    · rfl
    · simp only [decAt_cons_succ, List.getD_cons_succ, beq_iff_eq, Nat.add_right_cancel_iff, ih i j h]

theorem isMultisetPermutation_nil (cs : List Nat) : IsMultisetPermutation cs [] ↔ cs.sum = 0 := by
  rw [List.sum_eq_zero_iff_forall_eq_nat]
  refine ⟨fun h x hx => ?_, fun h => ⟨fun _ hx => (nomatch hx), fun i hi => (h _ (getD_mem hi)).symm⟩⟩
  obtain ⟨i, hi, rfl⟩ := exists_getD_of_mem hx
  exact (h.2 i hi).symm

theorem isMultisetPermutation_cons (cs : List Nat) (i : Nat) (w : List Nat) :
    IsMultisetPermutation cs (i :: w) ↔
      i < cs.length ∧ 0 < cs.getD i 0 ∧ IsMultisetPermutation (decAt cs i) w := by
  unfold IsMultisetPermutation
  rw [decAt_length, List.forall_mem_cons, and_assoc]
  refine and_congr_right fun hi => ?_
  by_cases hpos : 0 < cs.getD i 0
  · rw [iff_true_intro hpos, true_and]
    refine and_congr_right fun _ => forall_congr' fun j => imp_congr_right fun _ => ?_
    rw [List.count_cons, getD_eq_decAt_add cs i j hpos, Nat.add_right_cancel_iff]
  · refine ⟨fun h => absurd ?_ hpos, fun h => absurd h.1 hpos⟩
    rw [← h.2 i hi, List.count_cons_self]
    exact Nat.succ_pos _

/-- number of arrangements that start with `k` -/
def countStarting (cs : List Nat) (k : Nat) : Nat :=
  if 0 < cs.getD k 0 then countRemaining (decAt cs k) else 0

theorem factorialProd_decAt (cs : List Nat) (i : Nat) (h : 0 < cs.getD i 0) :
    cs.getD i 0 * factorialProd (decAt cs i) = factorialProd cs := by
  induction cs generalizing i with
  | nil => exact absurd h (Nat.lt_irrefl 0)
  | cons c cs ih =>
    cases i with
    | zero =>
      obtain ⟨c, rfl⟩ : ∃ c', c = c' + 1 := ⟨c - 1, (Nat.sub_add_cancel h).symm⟩
      exact (Nat.mul_assoc ..).symm
    | succ i =>
      rw [decAt_cons_succ, factorialProd_cons, factorialProd_cons, Nat.mul_left_comm]
      exact congrArg _ (ih i h)

theorem factorialProd_mul_countStarting (cs : List Nat) (i : Nat) :
    factorialProd cs * countStarting cs i = factorial (cs.sum - 1) * cs.getD i 0 := by
  unfold countStarting
  split
  · next h =>
    rw [← factorialProd_decAt cs i h, Nat.mul_assoc, Nat.mul_comm _ (countRemaining _),
      countRemaining_mul_factorialProd, Nat.mul_comm, ← decAt_sum cs i h, Nat.add_sub_cancel]
  · next h => rw [Nat.mul_zero, Nat.eq_zero_of_not_pos h, Nat.mul_zero]

theorem psum_getD (cs : List Nat) : psum (fun i => cs.getD i 0) cs.length = cs.sum := by
  induction cs with
  | nil => rfl
  | cons c cs ih => rw [List.length_cons, psum_succ_front, List.sum_cons, ← ih]; rfl

theorem countRemaining_rec (cs : List Nat) (h : 0 < cs.sum) :
    countRemaining cs = psum (countStarting cs) cs.length := by
  apply Nat.eq_of_mul_eq_mul_left (factorialProd_pos cs)
  rw [Nat.mul_comm, countRemaining_mul_factorialProd, ← psum_mul,
    psum_congr (fun i _ => factorialProd_mul_countStarting cs i), psum_mul, psum_getD]
  obtain ⟨s, hs⟩ : ∃ s, cs.sum = s + 1 := ⟨cs.sum - 1, (Nat.sub_add_cancel h).symm⟩
  rw [hs, Nat.add_sub_cancel]
  exact Nat.mul_comm (s + 1) _

theorem pickNext_succ (cs : List Nat) (fuel i0 idx : Nat) (hi : i0 < cs.length) :
    pickNext cs cs.length (fuel + 1) i0 idx =
      if idx < countStarting cs i0 then some (i0, idx)
      else pickNext cs cs.length fuel (i0 + 1) (idx - countStarting cs i0) := by
  refine (if_pos hi).trans ?_
  rw [countStarting, getD_eq_getElem 0 hi, List.getElem?_eq_getElem hi]
  by_cases hc : cs[i0] > 0
  · simp only [if_pos hc, ge_iff_le, ← Nat.not_lt, ite_not]
  · simp only [if_neg hc, Nat.not_lt_zero, if_false, Nat.sub_zero]

/-- the scan steps over the first `k` blocks -/
theorem pickNext_skip (cs : List Nat) {k : Nat} (hk : k ≤ cs.length) (fuel idx : Nat) :
    pickNext cs cs.length (fuel + k) 0 (psum (countStarting cs) k + idx) = pickNext cs cs.length fuel k idx := by
  induction k generalizing fuel idx with
  | zero => rw [psum_zero, Nat.zero_add]; rfl
  | succ k ih =>
    rw [psum_succ, Nat.add_assoc, ← Nat.succ_add_eq_add_succ, ih (Nat.le_of_succ_le hk), pickNext_succ cs fuel k _ hk,
      if_neg (Nat.not_lt.2 (Nat.le_add_right _ _)), Nat.add_sub_cancel_left]

theorem pickNext_hit (cs : List Nat) {i y : Nat} (hi : i < cs.length) (hy : y < countStarting cs i) :
    pickNext cs cs.length (cs.length + 1) 0 (psum (countStarting cs) i + y) = some (i, y) := by
  rw [show cs.length + 1 = cs.length - i + 1 + i by rw [Nat.add_right_comm, Nat.sub_add_cancel (Nat.le_of_lt hi)],
    pickNext_skip cs (Nat.le_of_lt hi), pickNext_succ cs _ i y hi, if_pos hy]

theorem constructWithCopies_bij (cs : List Nat) :
    BijOn (fun idx => constructWithCopies cs.length cs.sum idx cs) (· < countRemaining cs)
      (Ok (IsMultisetPermutation cs)) := by
  generalize hs : cs.sum = fill
  induction fill generalizing cs with
  | zero =>
    rw [countRemaining_of_sum_zero cs hs]
    refine BijOn.one ⟨[], rfl, (isMultisetPermutation_nil cs).2 hs⟩ ?_
    rintro _ ⟨w, rfl, hw⟩
    cases w with
    | nil => rfl
    | cons i w =>
      exact absurd (hs ▸ getD_le_sum cs i) (Nat.not_le.2 ((isMultisetPermutation_cons cs i w).1 hw).2.1)
  | succ fill ih =>
    rw [countRemaining_rec cs (hs ▸ Nat.succ_pos fill)]
    refine BijOn.concat
      (g := fun i y => (constructWithCopies cs.length fill y (decAt cs i)).map (i :: ·))
      (E := fun i e => ∃ r, e = .ok (i :: r) ∧ IsMultisetPermutation cs (i :: r))
      (fun i hi => ?_) (fun i y hi hy => ?_) ?_ (fun e => ⟨?_, ?_⟩)
    · by_cases hpos : 0 < cs.getD i 0
      · have := (ih (decAt cs i) (Nat.succ.inj ((decAt_sum cs i hpos).trans hs))).consOk i
        rw [decAt_length, ← (if_pos hpos : countStarting cs i = _)] at this
        refine this.congr_wrap fun r => ?_
        rw [isMultisetPermutation_cons]
        exact ⟨fun h => h.2.2, fun h => ⟨hi, hpos, h⟩⟩
      · rw [countStarting, if_neg hpos]
        refine BijOn.zero ?_
        rintro _ ⟨r, rfl, hr⟩
        exact hpos ((isMultisetPermutation_cons cs i r).1 hr).2.1
    · -- on block `i` the scan picks `i` and hands the place in the block to the recursive call
      simp only [constructWithCopies, pickNext_hit cs hi hy]
      cases constructWithCopies cs.length fill y (decAt cs i) <;> rfl
    · rintro i i' _ _ _ ⟨r, rfl, -⟩ ⟨r', e, -⟩
      exact (List.cons.inj (Except.ok.inj e)).1
    · rintro ⟨w, rfl, hw⟩
      cases w with
      | nil => cases hs.symm.trans ((isMultisetPermutation_nil cs).1 hw)
      | cons i r => exact ⟨i, ((isMultisetPermutation_cons cs i r).1 hw).1, r, rfl, hw⟩
    · rintro ⟨i, _, r, rfl, hr⟩
      exact ⟨_, rfl, hr⟩

end SPModel.Comb
