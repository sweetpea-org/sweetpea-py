/-
  About `Spec.geo` without looking into `create`: `geoList` is `map`, a CrossBlock is one `create` (`geo_cross`), the
  design of a Merge whose blocks share one design (`unionIds`); `create` returns the design it is given, and no
  constraints when it is given none.
-/
import SPModel.Spec
import SPProofs.Basic.List
namespace SPModel.SpecLemmas
open SPModel SPModel.Spec

theorem geoList_eq_map (d : Design) (bs : List BlockExpr) : geoList d bs = bs.map (geo d) := by
  induction bs with
  | nil => rfl
  | cons b bs ih => rw [geoList, ih, List.map_cons]

theorem geo_cross (d : Design) (D C : List Nat) (cs : List ConstraintD) (r : Bool) :
    geo d (.cross D C cs r) =
      create d D [{ factors := C, sustain := 1, weight := 1 }] [] cs r .weight .equalPreamble := by
  rw [geo]

theorem nil_unionIds (a : List Nat) : unionIds [] a = a := by
  simp [unionIds]

theorem unionIds_self (a : List Nat) : unionIds a a = a := by
  simp [unionIds]

theorem foldl_unionIds_const {α} (f : α → List Nat) (a : List Nat) (l : List α) (h : ∀ x ∈ l, f x = a) :
    l.foldl (fun acc g => unionIds acc (f g)) a = a :=
  List.foldl_eq_self fun x hx => by rw [h x hx, unionIds_self]

theorem foldl_unionIds_const_nil {α} (f : α → List Nat) (a : List Nat) (l : List α) (hne : l ≠ [])
    (h : ∀ x ∈ l, f x = a) : l.foldl (fun acc g => unionIds acc (f g)) [] = a := by
  cases l with
  | nil => exact absurd rfl hne
  | cons x xs =>
    rw [List.foldl_cons, h x (List.mem_cons_self ..), nil_unionIds]
    exact foldl_unionIds_const f a xs (fun y hy => h y (List.mem_cons_of_mem _ hy))

theorem create_design (d : Design) (design : List Nat) (insts : List CrossInst) (old : List Scoped)
    (new : List ConstraintD) (rcc : Bool) (mode : Mode) (align : Alignment) :
    (create d design insts old new rcc mode align).design = design := rfl

theorem create_constraints_nil (d : Design) (design : List Nat) (insts : List CrossInst)
    (rcc : Bool) (mode : Mode) (align : Alignment) :
    (create d design insts [] [] rcc mode align).constraints = [] := rfl

end SPModel.SpecLemmas
