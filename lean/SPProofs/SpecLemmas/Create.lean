/-
  `Spec.create` as maps over the kept crossings (`createM`, `create_eq_createM`); in that form: WEIGHT mode ignores
  the weights it is given (`createM_weight_reweight`), lifting exclusions brings no error (`createM_error_mono`), a
  second `create` on a geometry's own fields finds them again (`createM_own`, `CreateN.geo_geoOK`, `geo_errOK`).
  The last part, in namespace `CreateN`, reads the fields of a `create` and of a CrossBlock in `CreateN`'s terms
  (`create_sizes`, `create_preambles`, `create_required_le_iff`, `geo_cross_*`).

  Two sets of names for the parts of `create`: those here take the kept crossings `F` last, those of `CreateN.lean`
  are the folds of the trial count.  By `rfl`, and used so without a word:
    `keepInsts = CreateN.live`, `scoped0 = CreateN.newScoped0`, `sizeOf = CreateN.roundSize`,
    `preOf = CreateN.preOf`, `minTOf cs F = CreateN.roundUp F (CreateN.minT0 cs)`.
  Named, the argument order being different: `requiredOf_eq_required`, `nOf_eq` (also `rfl`); by a case split on
  the alignment: `map_startFn_eq`, `commonOf_eq_headD`.  The two `exclOf` differ: `SpecLemmas.exclOf old new` is all
  exclusions in force, `CreateN.exclOf cs` those the user writes (`CreateN.excludedLevels_eq`).
-/
import SPModel.Spec
import SPProofs.SpecLemmas.CreateN
import SPProofs.SpecLemmas.Geo
namespace SPModel.SpecLemmas
open SPModel SPModel.Spec

def keepInsts (insts : List CrossInst) : List CrossInst := insts.filter (fun i => !i.factors.isEmpty)

def scoped0 (new : List ConstraintD) : List Scoped := new.map (fun c => { c := c, scope := none, sustain := 1 })

def exclOf (old : List Scoped) (new : List ConstraintD) : List (Nat × Nat) := excludedLevels (old ++ scoped0 new)

def sizeOf (d : Design) (design : List Nat) (excl : List (Nat × Nat)) (i : CrossInst) : Nat :=
  ((feasibleCombos d design i.factors excl).foldl (fun a c => a + c.2) 0) * i.sustain

def preOf (d : Design) (i : CrossInst) : Nat := (i.factors.map (fun f => start d f)).foldl max 0 * i.sustain

def minTOf (allCs : List Scoped) (F : List CrossInst) : Nat :=
  F.foldl (fun m i => if i.sustain = 0 then m else ceilDiv m i.sustain * i.sustain)
    (allCs.foldl (fun m s => match s.c with | .minTrials k => max m (k * s.sustain) | _ => m) 0)

def requiredOf (d : Design) (design : List Nat) (excl : List (Nat × Nat)) (align : Alignment) (F : List CrossInst) : Nat :=
  match align with
  | .postPreamble => (F.map (fun i => preOf d i + (F.map (sizeOf d design excl)).foldl max 0)).foldl max 0
  | _ => (F.map (fun i => preOf d i + sizeOf d design excl i)).foldl max 0

def nOf (d : Design) (design : List Nat) (excl : List (Nat × Nat)) (allCs : List Scoped) (align : Alignment)
    (F : List CrossInst) : Nat :=
  max (max (minTOf allCs F) (requiredOf d design excl align F)) 1

def startFn (d : Design) (align : Alignment) (F : List CrossInst) (i : CrossInst) : Nat :=
  match align with
  | .postPreamble => (F.map (preOf d)).foldl max 0
  | _ => preOf d i

def commonOf (d : Design) (align : Alignment) (F : List CrossInst) : Nat :=
  match align with
  | .postPreamble => (F.map (preOf d)).foldl max 0
  | _ => (F.map (preOf d)).headD 0

def weightFn (d : Design) (design : List Nat) (excl : List (Nat × Nat)) (mode : Mode) (align : Alignment)
    (F : List CrossInst) (n : Nat) (i : CrossInst) : Nat :=
  if mode == .repeat then i.weight else ceilDiv (n - startFn d align F i) (sizeOf d design excl i)

def reweight (wf : CrossInst → Nat) (F : List CrossInst) : List CrossInst :=
  F.map (fun i => { i with weight := wf i })

def preBadOf (d : Design) (align : Alignment) (F : List CrossInst) : Bool :=
  align == .equalPreamble && (F.map (preOf d)).any (fun p => p ≠ (F.map (preOf d)).headD 0)

def zeroSizeOf (d : Design) (design : List Nat) (excl : List (Nat × Nat)) (F : List CrossInst) : Bool :=
  (F.map (sizeOf d design excl)).any (· == 0)

def incompleteOf (d : Design) (design : List Nat) (excl : List (Nat × Nat)) (F : List CrossInst) : Bool :=
  F.any (fun i => (feasibleCombos d design i.factors excl).length ≠ allCombosCount d i.factors)

def impossibleOf (d : Design) (F : List CrossInst) : Bool :=
  F.any (fun i => i.factors.any (fun f =>
    isComplex d f && (List.range (numLevels d f)).any (fun l => !(levelPossible d f l))))

def equalBadOf (mode : Mode) (wf : CrossInst → Nat) (F : List CrossInst) : Bool :=
  mode == .equal && F.any (fun i => i.weight ≠ wf i)

/-- the part of `create`'s error that does not depend on mode or alignment -/
def tailErr (zeroSize rcc bad : Bool) : Option String :=
  if zeroSize then some "a crossing has no feasible combination"
  else if rcc && bad then some "complete crossing unsatisfiable"
  else none

def errOf (equalBad preBad : Bool) (tail : Option String) : Option String :=
  if equalBad then some "RepeatMode.EQUAL with different crossing sizes"
  else if preBad then some "EQUAL_PREAMBLE with different preamble sizes"
  else tail

def createM (d : Design) (design : List Nat) (insts : List CrossInst) (old : List Scoped)
    (new : List ConstraintD) (rcc : Bool) (mode : Mode) (align : Alignment) : Geo :=
  let F := keepInsts insts
  let excl := exclOf old new
  let n := nOf d design excl (old ++ scoped0 new) align F
  let wf := weightFn d design excl mode align F n
  { design := design
    crossings := reweight wf F
    constraints := old ++ new.map (fun c => { c := c, scope := some (n, commonOf d align F), sustain := 1 })
    n := n
    preambles := F.map (startFn d align F)
    sizes := F.map (sizeOf d design excl)
    align := align
    rcc := rcc
    error := errOf (equalBadOf mode wf F) (preBadOf d align F)
      (tailErr (zeroSizeOf d design excl F) rcc (incompleteOf d design excl F || impossibleOf d F)) }

/-- `List.any_map` for the zips only: the other `any`s over maps stand in `createM` as they do in `create` -/
theorem any_map_pair {α β} (f : α → β) (p : α × β → Bool) (l : List α) :
    (l.map (fun x => (x, f x))).any p = l.any (fun x => p (x, f x)) := by
  rw [List.any_map]; rfl

theorem create_eq_createM (d : Design) (design : List Nat) (insts : List CrossInst) (old : List Scoped)
    (new : List ConstraintD) (rcc : Bool) (mode : Mode) (align : Alignment) :
    create d design insts old new rcc mode align = createM d design insts old new rcc mode align := by
  -- once the zips of maps of the kept crossings are maps, the two sides agree field by field; only the fifteenth
  -- `let` of `create`, the list of starts, is a `match` of two maps and needs the alignment to be seen as one
  unfold create
  extract_lets F _ _ _ _ _ _ _ _ _ _ _ _ _ starts
  have hs : starts = F.map (startFn d align F) := by cases align <;> rfl
  simp +zetaDelta only [hs, ← List.map_prod_left_eq_zip, List.zip_map', List.map_map, any_map_pair]
  rfl

theorem requiredOf_eq_required (d : Design) (design : List Nat) (excl : List (Nat × Nat)) (al : Alignment)
    (F : List CrossInst) :
    requiredOf d design excl al F = CreateN.required d design excl F al := rfl

theorem nOf_eq (d : Design) (design : List Nat) (excl : List (Nat × Nat)) (cs : List Scoped) (al : Alignment)
    (F : List CrossInst) :
    nOf d design excl cs al F
      = max (max (CreateN.roundUp F (CreateN.minT0 cs)) (CreateN.required d design excl F al)) 1 := rfl

theorem map_startFn_eq (d : Design) (al : Alignment) (F : List CrossInst) :
    F.map (startFn d al F) = match al with
      | .postPreamble => F.map (fun _ => (F.map (CreateN.preOf d)).foldl max 0)
      | _ => F.map (CreateN.preOf d) := by
  cases al <;> rfl

theorem _root_.SPModel.CreateN.GeoOK.preambles_eq {d : Design} {g : Geo} (h : CreateN.GeoOK d g) :
    g.preambles = g.crossings.map (startFn d g.align g.crossings) :=
  h.preambles.trans (map_startFn_eq ..).symm

theorem commonOf_eq_headD (d : Design) (align : Alignment) (F : List CrossInst) :
    commonOf d align F = (F.map (startFn d align F)).headD 0 := by
  cases align
  · cases F <;> rfl
  · rfl
  · rfl

theorem errOf_eq_none {a b : Bool} {t : Option String} : errOf a b t = none ↔ a = false ∧ b = false ∧ t = none := by
  cases a <;> cases b <;> simp [errOf]

theorem tailErr_eq_none {z r bad : Bool} : tailErr z r bad = none ↔ z = false ∧ (r && bad) = false := by
  cases z <;> cases h : (r && bad) <;> simp [tailErr, h]

theorem map_reweight {β} (f : CrossInst → β) (hf : ∀ i w, f { i with weight := w } = f i)
    (wf : CrossInst → Nat) (F : List CrossInst) : (reweight wf F).map f = F.map f := by
  simp [reweight, List.map_map, Function.comp_def, hf]

theorem any_reweight (f : CrossInst → Bool) (hf : ∀ i w, f { i with weight := w } = f i)
    (wf : CrossInst → Nat) (F : List CrossInst) : (reweight wf F).any f = F.any f := by
  simp [reweight, List.any_map, Function.comp_def, hf]

theorem foldl_reweight {β} (g : β → CrossInst → β) (hg : ∀ m i w, g m { i with weight := w } = g m i)
    (wf : CrossInst → Nat) (F : List CrossInst) (a : β) : (reweight wf F).foldl g a = F.foldl g a := by
  simp [reweight, List.foldl_map, hg]

theorem keepInsts_reweight (wf : CrossInst → Nat) (l : List CrossInst) :
    keepInsts (reweight wf l) = reweight wf (keepInsts l) :=
  List.filter_map

theorem keepInsts_keepInsts (l : List CrossInst) : keepInsts (keepInsts l) = keepInsts l := by
  simp only [keepInsts, List.filter_filter, Bool.and_self]

theorem reweight_reweight (w1 w2 : CrossInst → Nat) (F : List CrossInst) :
    reweight w2 (reweight w1 F) = reweight (fun i => w2 { i with weight := w1 i }) F := by
  simp [reweight, List.map_map, Function.comp_def]

theorem reweight_congr (w1 w2 : CrossInst → Nat) (F : List CrossInst) (h : ∀ i ∈ F, w1 i = w2 i) :
    reweight w1 F = reweight w2 F := by
  unfold reweight
  apply List.map_congr_left
  intro i hi
  rw [h i hi]

theorem reweight_eq_self {wf : CrossInst → Nat} {F : List CrossInst} (h : ∀ i ∈ F, wf i = i.weight) :
    reweight wf F = F :=
  (reweight_congr wf (·.weight) F h).trans (List.map_id' F)

theorem equalBadOf_eq_false {wf : CrossInst → Nat} {F : List CrossInst} (m : Mode) (h : ∀ i ∈ F, wf i = i.weight) :
    equalBadOf m wf F = false := by
  rw [equalBadOf, Bool.and_eq_false_iff, List.any_eq_false]
  exact Or.inr fun i hi => by simp [h i hi]

theorem requiredOf_reweight (d : Design) (design : List Nat) (excl : List (Nat × Nat)) (align : Alignment)
    (wf : CrossInst → Nat) (F : List CrossInst) :
    requiredOf d design excl align (reweight wf F) = requiredOf d design excl align F := by
  unfold requiredOf
  rw [map_reweight _ (fun _ _ => rfl), map_reweight _ (fun _ _ => rfl), map_reweight _ (fun _ _ => rfl)]

theorem nOf_reweight (d : Design) (design : List Nat) (excl : List (Nat × Nat)) (cs : List Scoped) (align : Alignment)
    (wf : CrossInst → Nat) (F : List CrossInst) :
    nOf d design excl cs align (reweight wf F) = nOf d design excl cs align F := by
  unfold nOf minTOf
  rw [foldl_reweight _ (fun _ _ _ => rfl), requiredOf_reweight]

theorem startFn_reweight (d : Design) (align : Alignment) (wf : CrossInst → Nat) (F : List CrossInst)
    (i : CrossInst) (w : Nat) : startFn d align (reweight wf F) { i with weight := w } = startFn d align F i := by
  unfold startFn
  rw [map_reweight _ (fun _ _ => rfl)]
  rfl

theorem map_startFn_reweight (d : Design) (align : Alignment) (wf : CrossInst → Nat) (F : List CrossInst) :
    (reweight wf F).map (startFn d align (reweight wf F)) = F.map (startFn d align F) :=
  (List.map_map ..).trans (List.map_congr_left fun i _ => startFn_reweight d align _ _ i _)

theorem commonOf_reweight (d : Design) (align : Alignment) (wf : CrossInst → Nat) (F : List CrossInst) :
    commonOf d align (reweight wf F) = commonOf d align F := by
  unfold commonOf
  rw [map_reweight _ (fun _ _ => rfl)]

theorem preBadOf_reweight (d : Design) (align : Alignment) (wf : CrossInst → Nat) (F : List CrossInst) :
    preBadOf d align (reweight wf F) = preBadOf d align F := by
  unfold preBadOf
  rw [map_reweight _ (fun _ _ => rfl)]

theorem tailErr_reweight (d : Design) (design : List Nat) (excl : List (Nat × Nat)) (rcc : Bool) (wf : CrossInst → Nat)
    (F : List CrossInst) :
    tailErr (zeroSizeOf d design excl (reweight wf F)) rcc
        (incompleteOf d design excl (reweight wf F) || impossibleOf d (reweight wf F)) =
      tailErr (zeroSizeOf d design excl F) rcc (incompleteOf d design excl F || impossibleOf d F) := by
  unfold zeroSizeOf incompleteOf impossibleOf
  rw [map_reweight _ (fun _ _ => rfl), any_reweight _ (fun _ _ => rfl), any_reweight _ (fun _ _ => rfl)]

theorem equalBadOf_weight (wf : CrossInst → Nat) (F : List CrossInst) : equalBadOf .weight wf F = false := rfl

theorem createM_weight_reweight (d : Design) (design : List Nat) (insts : List CrossInst) (old : List Scoped)
    (new : List ConstraintD) (rcc : Bool) (align : Alignment) (wf : CrossInst → Nat) :
    createM d design (reweight wf insts) old new rcc .weight align =
      createM d design insts old new rcc .weight align := by
  -- `equalBadOf_weight`: left to `rfl`, the two EQUAL tests are compared by their (different) weight functions first
  simp only [createM, keepInsts_reweight, nOf_reweight, commonOf_reweight, preBadOf_reweight, tailErr_reweight,
    equalBadOf_weight]
  rw [Geo.mk.injEq]
  refine ⟨rfl, ?_, rfl, rfl, map_startFn_reweight .., map_reweight _ (fun _ _ => rfl) _ _, rfl, rfl, rfl⟩
  rw [reweight_reweight]
  refine reweight_congr _ _ _ fun i _ => ?_
  rw [weightFn, startFn_reweight]
  rfl

theorem createM_keepInsts (d : Design) (design : List Nat) (insts : List CrossInst) (old : List Scoped)
    (new : List ConstraintD) (rcc : Bool) (mode : Mode) (align : Alignment) :
    createM d design (keepInsts insts) old new rcc mode align = createM d design insts old new rcc mode align := by
  simp only [createM, keepInsts_keepInsts]

def allPreEq (d : Design) (F : List CrossInst) : Bool :=
  !((F.map (preOf d)).any (fun p => p ≠ (F.map (preOf d)).headD 0))

theorem preBadOf_equalPreamble (d : Design) (F : List CrossInst) :
    preBadOf d .equalPreamble F = !allPreEq d F := by
  simp [preBadOf, allPreEq]

theorem preBadOf_of_allPreEq {d : Design} {F : List CrossInst} (a : Alignment) (h : allPreEq d F = true) :
    preBadOf d a F = false := by
  unfold allPreEq at h
  rw [Bool.not_eq_true'] at h
  rw [preBadOf, h, Bool.and_false]

theorem allPreEq_iff {d : Design} {F : List CrossInst} :
    allPreEq d F = true ↔ ∀ i ∈ F, preOf d i = (F.map (preOf d)).headD 0 := by
  simp only [allPreEq, Bool.not_eq_true', List.any_eq_false, decide_eq_true_eq, Decidable.not_not,
    List.forall_mem_map]

theorem allPreEq_of_length_le_one (d : Design) {F : List CrossInst} (h : F.length ≤ 1) : allPreEq d F = true := by
  rcases F with _ | ⟨i, _ | _⟩
  · rfl
  · exact allPreEq_iff.mpr fun j hj => List.mem_singleton.mp hj ▸ rfl
  · exact absurd (Nat.le_of_succ_le_succ h) (Nat.not_succ_le_zero _)

theorem maxPre_of_allPreEq (d : Design) (F : List CrossInst) (h : allPreEq d F = true) :
    (F.map (preOf d)).foldl max 0 = (F.map (preOf d)).headD 0 := by
  refine CreateN.eq_of_forall_ge_iff (fun m => ?_)
  rw [CreateN.foldl_max_le_iff, List.forall_mem_map, and_iff_right (Nat.zero_le m)]
  cases F with
  | nil => exact iff_of_true (fun _ h => nomatch h) (Nat.zero_le m)
  | cons x xs => exact ⟨fun H => H x (List.mem_cons_self ..), fun H i hi => allPreEq_iff.mp h i hi ▸ H⟩

theorem requiredOf_of_allPreEq (d : Design) (design : List Nat) (excl : List (Nat × Nat)) (F : List CrossInst)
    (h : allPreEq d F = true) (a : Alignment) :
    requiredOf d design excl a F = requiredOf d design excl .equalPreamble F := by
  cases a
  · have hp : ∀ i ∈ F, ∀ j ∈ F, CreateN.preOf d i = CreateN.preOf d j := fun i hi j hj =>
      (allPreEq_iff.mp h i hi).trans (allPreEq_iff.mp h j hj).symm
    rw [requiredOf_eq_required, requiredOf_eq_required]
    refine CreateN.eq_of_forall_ge_iff (fun m => ?_)
    rw [CreateN.required_post_le_iff, CreateN.required_le_iff (by decide)]
    exact ⟨fun H j hj => H j hj j hj, fun H i hi j hj => hp i hi j hj ▸ H j hj⟩
  · rfl
  · rfl

theorem startFn_of_allPreEq (d : Design) (F : List CrossInst) (h : allPreEq d F = true) (a : Alignment) :
    ∀ i ∈ F, startFn d a F i = preOf d i := by
  intro i hi
  cases a
  · exact (maxPre_of_allPreEq d F h).trans (allPreEq_iff.mp h i hi).symm
  · rfl
  · rfl

theorem requiredOf_align (d : Design) (design : List Nat) (excl : List (Nat × Nat)) (F : List CrossInst)
    (a a' : Alignment) (h : a' = a ∨ allPreEq d F = true) :
    requiredOf d design excl a' F = requiredOf d design excl a F := by
  rcases h with rfl | h
  · rfl
  · rw [requiredOf_of_allPreEq d design excl F h a', requiredOf_of_allPreEq d design excl F h a]

theorem startFn_align (d : Design) (F : List CrossInst) (a a' : Alignment) (h : a' = a ∨ allPreEq d F = true) :
    ∀ i ∈ F, startFn d a' F i = startFn d a F i := by
  intro i hi
  rcases h with rfl | h
  · rfl
  · rw [startFn_of_allPreEq d F h a' i hi, startFn_of_allPreEq d F h a i hi]

/-- `tailErr` on the geometry's own fields -/
def tailOf (d : Design) (g : Geo) : Option String :=
  tailErr (zeroSizeOf d g.design (excludedLevels g.constraints) g.crossings) g.rcc
    (incompleteOf d g.design (excludedLevels g.constraints) g.crossings || impossibleOf d g.crossings)

/-- a geometry without error passes the tests of `create` on its own fields -/
def ErrOK (d : Design) (g : Geo) : Prop :=
  g.error = none → preBadOf d g.align g.crossings = false ∧ tailOf d g = none

/-- `ha`: the new alignment treats the preambles as the old one did; weights and error depend on the mode -/
theorem createM_own {d : Design} {g : Geo} (h : CreateN.GeoOK d g) (m : Mode) (a : Alignment)
    (ha : a = g.align ∨ allPreEq d g.crossings = true) :
    createM d g.design g.crossings g.constraints [] g.rcc m a =
      { g with
        crossings := reweight (weightFn d g.design (excludedLevels g.constraints) m a g.crossings g.n) g.crossings
        align := a
        error := errOf (equalBadOf m (weightFn d g.design (excludedLevels g.constraints) m a g.crossings g.n) g.crossings)
          (preBadOf d a g.crossings) (tailOf d g) } := by
  have hF : keepInsts g.crossings = g.crossings := CreateN.live_eq_self h.live
  have hn : nOf d g.design (excludedLevels g.constraints) g.constraints a g.crossings = g.n := by
    rw [nOf, requiredOf_align d _ _ _ g.align a ha, requiredOf_eq_required]
    exact h.n.symm
  have hp : g.crossings.map (startFn d a g.crossings) = g.preambles :=
    (List.map_congr_left (startFn_align d _ g.align a ha)).trans h.preambles_eq.symm
  have hs : g.crossings.map (sizeOf d g.design (excludedLevels g.constraints)) = g.sizes := h.sizes.symm
  simp only [createM, hF, exclOf, scoped0, List.map_nil, List.append_nil, hn, hp, hs]
  rfl

theorem createM_own_error {d : Design} {g : Geo} (h : CreateN.GeoOK d g) (a : Alignment) :
    (createM d g.design g.crossings g.constraints [] g.rcc .repeat a).error =
      errOf false (preBadOf d a g.crossings) (tailOf d g) := by
  have hF : keepInsts g.crossings = g.crossings := CreateN.live_eq_self h.live
  simp only [createM, hF, exclOf, scoped0, List.map_nil, List.append_nil]
  rfl

theorem contains_of_subset {excl excl' : List (Nat × Nat)} (hsub : excl' ⊆ excl) {p : Nat × Nat}
    (h : excl'.contains p = true) : excl.contains p = true :=
  List.contains_iff_mem.mpr (hsub (List.contains_iff_mem.mp h))

theorem trialWorlds_mono {d : Design} {design : List Nat} {excl excl' : List (Nat × Nat)} (hsub : excl' ⊆ excl)
    {w : List (Nat × Nat)} (h : w ∈ trialWorlds d design excl) : w ∈ trialWorlds d design excl' := by
  obtain ⟨asg, hmem, h⟩ := List.mem_filterMap.mp h
  refine List.mem_filterMap.mpr ⟨asg, hmem, ?_⟩
  -- the derived levels of the assignment `asg` do not depend on the exclusions; only the last test reads them
  dsimp only at h ⊢
  split at h
  · cases h
  · split at h
    · cases h
    · next hno =>
      rwa [if_neg fun hc => hno ?_]
      obtain ⟨p, hp, hc⟩ := List.any_eq_true.mp hc
      exact List.any_eq_true.mpr ⟨p, hp, contains_of_subset hsub hc⟩

theorem filter_sublist_filter {α} (p q : α → Bool) (h : ∀ a, p a = true → q a = true) (l : List α) :
    (l.filter p).Sublist (l.filter q) := by
  have : l.filter p = (l.filter q).filter p := by
    rw [List.filter_filter]
    refine List.filter_congr fun a _ => ?_
    cases hp : p a
    · rfl
    · rw [h a hp]; rfl
  exact this ▸ List.filter_sublist

theorem feasibleCombos_sublist (d : Design) (design crossing : List Nat) {excl excl' : List (Nat × Nat)}
    (hsub : excl' ⊆ excl) :
    (feasibleCombos d design crossing excl).Sublist (feasibleCombos d design crossing excl') := by
  simp only [feasibleCombos]
  apply List.Sublist.map
  apply filter_sublist_filter
  intro combo h
  simp only [Bool.and_eq_true, List.all_eq_true, List.any_eq_true] at h ⊢
  obtain ⟨hex, w, hw, hall⟩ := h
  refine ⟨fun p hp => ?_, w, trialWorlds_mono hsub hw, hall⟩
  cases hc : excl'.contains p
  · simp
  · have := hex p hp
    rwa [contains_of_subset hsub hc] at this

theorem foldl_add_sublist {α} (f : α → Nat) {l₁ l₂ : List α} (h : l₁.Sublist l₂) : ∀ a b : Nat, a ≤ b →
    l₁.foldl (fun a c => a + f c) a ≤ l₂.foldl (fun a c => a + f c) b := by
  induction h with
  | slnil => exact fun _ _ h => h
  | cons x _ ih => exact fun a b h => ih a _ (Nat.le_trans h (Nat.le_add_right _ _))
  | cons_cons x _ ih => exact fun a b h => ih _ _ (Nat.add_le_add_right h _)

theorem sizeOf_mono (d : Design) (design : List Nat) {excl excl' : List (Nat × Nat)} (hsub : excl' ⊆ excl)
    (i : CrossInst) : sizeOf d design excl i ≤ sizeOf d design excl' i := by
  unfold sizeOf
  exact Nat.mul_le_mul_right _ (foldl_add_sublist _ (feasibleCombos_sublist d design i.factors hsub) 0 0 (Nat.le_refl 0))

theorem length_product {α} (ls : List (List α)) : (product ls).length = (ls.map List.length).foldl (· * ·) 1 := by
  fun_induction product ls with
  | case1 => rfl
  | case2 l ls ih =>
    rw [List.map_cons, List.foldl_cons, Nat.mul_comm 1, List.foldl_assoc, ← ih, List.length_flatMap]
    simp only [List.length_map, List.map_const', List.sum_replicate_nat]

theorem feasibleCombos_length_le (d : Design) (design crossing : List Nat) (excl : List (Nat × Nat)) :
    (feasibleCombos d design crossing excl).length ≤ allCombosCount d crossing := by
  have h : (product (crossing.map (fun id => List.range (numLevels d id)))).length = allCombosCount d crossing := by
    rw [length_product, List.map_map]
    simp only [Function.comp_def, List.length_range]
    rfl
  rw [← h, feasibleCombos, List.length_map]
  exact List.length_filter_le _ _

theorem zeroSizeOf_mono (d : Design) (design : List Nat) {excl excl' : List (Nat × Nat)} (hsub : excl' ⊆ excl)
    (F : List CrossInst) (h : zeroSizeOf d design excl F = false) : zeroSizeOf d design excl' F = false := by
  simp only [zeroSizeOf, List.any_map, List.any_eq_false, Function.comp_def, beq_iff_eq] at h ⊢
  exact fun i hi h0 => h i hi (Nat.le_zero.mp (h0 ▸ sizeOf_mono d design hsub i))

theorem incompleteOf_mono (d : Design) (design : List Nat) {excl excl' : List (Nat × Nat)} (hsub : excl' ⊆ excl)
    (F : List CrossInst) (h : incompleteOf d design excl F = false) : incompleteOf d design excl' F = false := by
  simp only [incompleteOf, List.any_eq_false, decide_eq_true_eq, Decidable.not_not] at h ⊢
  exact fun i hi => Nat.le_antisymm (feasibleCombos_length_le ..)
    (h i hi ▸ (feasibleCombos_sublist d design i.factors hsub).length_le)

theorem createM_error_mono (d : Design) (design : List Nat) (insts : List CrossInst) {old old' : List Scoped}
    {new new' : List ConstraintD} (rcc : Bool) (align : Alignment) (hsub : exclOf old' new' ⊆ exclOf old new)
    (h : (createM d design insts old new rcc .weight align).error = none) :
    (createM d design insts old' new' rcc .weight align).error = none := by
  simp only [createM] at h ⊢
  obtain ⟨_, hb, ht⟩ := errOf_eq_none.mp h
  obtain ⟨hz, hr⟩ := tailErr_eq_none.mp ht
  refine errOf_eq_none.mpr ⟨rfl, hb, tailErr_eq_none.mpr ⟨zeroSizeOf_mono _ _ hsub _ hz, ?_⟩⟩
  cases rcc
  · rfl
  · rw [Bool.true_and, Bool.or_eq_false_iff] at hr ⊢
    exact ⟨incompleteOf_mono _ _ hsub _ hr.1, hr.2⟩

theorem orElse_eq_none {α} {o : Option α} {f : Unit → Option α} (h : o.orElse f = none) : f () = none :=
  (Option.or_eq_none_iff.mp (Option.orElse_eq_or ▸ h)).2

theorem ite_some_eq_none {α} {c : Prop} [Decidable c] {x : α} {y : Option α}
    (h : (if c then some x else y) = none) : y = none := by
  split at h
  · simp at h
  · exact h

theorem orElse_eq_self {α} {o : Option α} {f : Unit → Option α} (h : o = none → f () = none) : o.orElse f = o := by
  cases o with
  | none => exact h rfl
  | some x => rfl

end SPModel.SpecLemmas

namespace SPModel.CreateN
open SPModel SPModel.Spec SPModel.SpecLemmas

theorem create_sizes (d : Design) (design : List Nat) (insts : List CrossInst) (old : List Scoped)
    (new : List ConstraintD) (rcc : Bool) (mode : Mode) (align : Alignment) :
    (create d design insts old new rcc mode align).sizes
      = (live insts).map (roundSize d design (excludedLevels (old ++ newScoped0 new))) := by
  rw [create_eq_createM]; rfl

theorem create_preambles (d : Design) (design : List Nat) (insts : List CrossInst) (old : List Scoped)
    (new : List ConstraintD) (rcc : Bool) (mode : Mode) (align : Alignment) :
    (create d design insts old new rcc mode align).preambles
      = match align with
        | .postPreamble => (live insts).map (fun _ => ((live insts).map (preOf d)).foldl max 0)
        | _ => (live insts).map (preOf d) := by
  rw [create_eq_createM]
  exact map_startFn_eq ..

theorem create_required_le_iff (d : Design) (design : List Nat) (insts : List CrossInst) (old : List Scoped)
    (new : List ConstraintD) (rcc : Bool) (mode : Mode) {align : Alignment} (hal : align ≠ .postPreamble) {m : Nat} :
    required d design (excludedLevels (old ++ newScoped0 new)) (live insts) align ≤ m ↔
      ∀ p ∈ (create d design insts old new rcc mode align).preambles.zip
        (create d design insts old new rcc mode align).sizes, p.1 + p.2 ≤ m := by
  rw [required_le_iff hal, create_preambles, create_sizes]
  cases align
  · exact absurd rfl hal
  all_goals simp only [List.zip_map', List.forall_mem_map]

theorem create_required_post_le_iff (d : Design) (design : List Nat) (insts : List CrossInst) (old : List Scoped)
    (new : List ConstraintD) (rcc : Bool) (mode : Mode) {m : Nat} :
    required d design (excludedLevels (old ++ newScoped0 new)) (live insts) .postPreamble ≤ m ↔
      ∀ p ∈ (create d design insts old new rcc mode .postPreamble).preambles,
        ∀ s ∈ (create d design insts old new rcc mode .postPreamble).sizes, p + s ≤ m := by
  rw [create_preambles, create_sizes, required_post_le_iff_max]
  simp only [List.forall_mem_map]
  exact ⟨fun H _ _ j hj => H j hj, fun H j hj => H j hj j hj⟩

theorem create_crossings_repeat (d : Design) (design : List Nat) (insts : List CrossInst) (old : List Scoped)
    (new : List ConstraintD) (rcc : Bool) (align : Alignment) :
    (create d design insts old new rcc .repeat align).crossings = live insts := by
  rw [create_eq_createM]
  exact reweight_eq_self fun _ _ => rfl

theorem createM_inv (d : Design) (design : List Nat) (insts : List CrossInst) (old : List Scoped)
    (new : List ConstraintD) (rcc : Bool) (mode : Mode) (align : Alignment) :
    GeoOK d (createM d design insts old new rcc mode align) ∧ ErrOK d (createM d design insts old new rcc mode align) := by
  -- all that enters: the crossings are the live ones with new weights, the constraints the old ones and the new
  -- ones with some scope
  unfold createM
  extract_lets F excl n wf
  refine ⟨⟨fun i hi => ?_, ?_, ?_, ?_⟩, fun h => ?_⟩
  · obtain ⟨j, hj, rfl⟩ := List.mem_map.mp hi
    exact (mem_live.mp hj).2
  · dsimp only
    rw [excludedLevels_scoped, map_reweight _ (fun _ _ => rfl)]
    rfl
  · dsimp only
    rw [map_reweight _ (fun _ _ => rfl), map_reweight _ (fun _ _ => rfl)]
    exact map_startFn_eq ..
  · dsimp only
    rw [← nOf_eq, nOf_reweight, nOf_eq, minT0_scoped, excludedLevels_scoped]
    exact nOf_eq ..
  · obtain ⟨_, hb, ht⟩ := errOf_eq_none.mp h
    dsimp only [tailOf]
    rw [excludedLevels_scoped, preBadOf_reweight, tailErr_reweight]
    exact ⟨hb, ht⟩

/-- the geometries `geo` builds: a `create` whose error may have been replaced by an earlier one -/
theorem create_inv (d : Design) (design : List Nat) (insts : List CrossInst) (old : List Scoped)
    (new : List ConstraintD) (rcc : Bool) (mode : Mode) (align : Alignment) (e : Option String)
    (he : e = none → (create d design insts old new rcc mode align).error = none) :
    GeoOK d { create d design insts old new rcc mode align with error := e } ∧
      ErrOK d { create d design insts old new rcc mode align with error := e } := by
  rw [create_eq_createM] at he ⊢
  exact (createM_inv d design insts old new rcc mode align).imp (geoOK_error · e) fun h2 h => h2 (he h)

/-- proved once about variables: on the arguments `geo` passes, comparing `{ g with error := g.error }` with `g`
    unfolds `create` -/
theorem create_inv_self (d : Design) (design : List Nat) (insts : List CrossInst) (old : List Scoped)
    (new : List ConstraintD) (rcc : Bool) (mode : Mode) (align : Alignment) :
    GeoOK d (create d design insts old new rcc mode align) ∧ ErrOK d (create d design insts old new rcc mode align) :=
  create_inv d design insts old new rcc mode align _ id

theorem geo_inv (d : Design) (b : BlockExpr) : GeoOK d (geo d b) ∧ ErrOK d (geo d b) := by
  cases b with
  | cross design crossing cs rcc => exact create_inv_self ..
  | multiCross design crossings cs rcc mode align => exact create_inv _ _ _ _ _ _ _ _ _ orElse_eq_none
  | «repeat» b cs => exact create_inv _ _ _ _ _ _ _ _ _ orElse_eq_none
  | merge bs cs mode align => exact create_inv _ _ _ _ _ _ _ _ _ (fun h => ite_some_eq_none (orElse_eq_none h))
  | nest outer inner cs align => exact create_inv _ _ _ _ _ _ _ _ _ (fun h => orElse_eq_none (orElse_eq_none h))

theorem geo_geoOK (d : Design) (b : BlockExpr) : GeoOK d (geo d b) := (geo_inv d b).1

theorem geo_errOK (d : Design) (b : BlockExpr) : ErrOK d (geo d b) := (geo_inv d b).2

theorem geo_cross_design (d : Design) (D C : List Nat) (cs : List ConstraintD) (r : Bool) :
    (geo d (.cross D C cs r)).design = D := by
  rw [geo_cross]; rfl

theorem geo_cross_constraints (d : Design) (D C : List Nat) (cs : List ConstraintD) (r : Bool) :
    (geo d (.cross D C cs r)).constraints.map (·.c) = cs := by
  rw [geo_cross, create_eq_createM]
  exact (List.map_map ..).trans (List.map_id' cs)

theorem geo_cross_factors (d : Design) (D C : List Nat) (cs : List ConstraintD) (r : Bool) :
    ∀ i ∈ (geo d (.cross D C cs r)).crossings, i.factors = C := by
  rw [geo_cross, create_eq_createM]
  intro i hi
  obtain ⟨j, hj, rfl⟩ := List.mem_map.mp hi
  cases List.mem_singleton.mp (mem_live.mp hj).1
  rfl

theorem geo_cross_no_minTrials (d : Design) (D C : List Nat) {cs : List ConstraintD} (r : Bool)
    (h : ∀ k, ConstraintD.minTrials k ∉ cs) : ∀ s ∈ (geo d (.cross D C cs r)).constraints, ∀ k, s.c ≠ .minTrials k := by
  intro s hs k hk
  have : s.c ∈ (geo d (.cross D C cs r)).constraints.map (·.c) := List.mem_map_of_mem hs
  rw [geo_cross_constraints, hk] at this
  exact h k this

end SPModel.CreateN
