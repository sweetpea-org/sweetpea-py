import SPModel.Spec
import SPProofs.Compile.Runs

namespace SPModel.SpecLemmas
open SPModel SPModel.Spec

theorem runs_eq_compile (l : Nat) (xs : List (Option Nat)) :
    runs l xs = Compile.runs (xs.map (· == some l)) := by
  unfold runs Compile.runs
  rw [List.foldl_map]

end SPModel.SpecLemmas
