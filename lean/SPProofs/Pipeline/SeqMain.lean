/-
  `Cross` at the level of sequences, the whole constraint list (`meaningAll_iff_seq`), and `C02.sequences_iff_models`.
  Per item of a `Chain` (a crossing, a constraint) the meaning over an assignment that encodes `s` is "the item's state
  variables carry what `s` says, and `s` meets the item's demand"; this composes (`Chain.all_iff`), and the state
  variables can be set one block after the other (`Chain.settable_all`), so they are eliminated.
-/
import SPProofs.Pipeline.SeqBasic
import SPProofs.Properties.C02

namespace SPModel.Pipeline
open SPModel Layout

theorem comboSel_eq_comboIs (p : PInput) (hwf : C14.WF p.layout) (hx : CrossOk p) (s : TSeq)
    (ρ : Assign) (hag : Agree (variablesPerSample p.layout) (assignOf p s) ρ)
    (c : PCrossing) (hc : c ∈ p.crossings) (hfac : ∀ i ∈ c.factors, i < p.layout.factors.length)
    (ci : Nat) (hci : ci < c.combos.length) (t : Nat) (h1 : c.preamble < t) (h2 : t ≤ trials p) :
    comboSel p ρ c ci t = comboIs s c ci t :=
  List.all_congr_mem fun fl hfl =>
    have hok := hx c hc ci hci fl hfl
    sel_eq p hwf s ρ hag fl.1 fl.2 t
      ⟨_, factorAt_get p fl.1 (hfac fl.1 (List.of_mem_zip hfl).1), hok.1, Nat.zero_lt_of_lt h1, h2, hok.2 t h1 h2⟩

def StateEq (p : PInput) (s : TSeq) (fr : Nat) (ρ : Assign) (c : PCrossing) : Prop :=
  ∀ ti ci, ti < trials p - c.preamble → ci < c.combos.length →
    ρ (fr + ti * c.combos.length + ci) = comboIs s c ci (c.preamble + 1 + ti)

theorem crossMeaning_iff (p : PInput) (hwf : C14.WF p.layout) (hx : CrossOk p) (s : TSeq)
    (ρ : Assign) (hag : Agree (variablesPerSample p.layout) (assignOf p s) ρ)
    (c : PCrossing) (hc : c ∈ p.crossings) (hfac : ∀ i ∈ c.factors, i < p.layout.factors.length) (fr : Nat) :
    CrossMeaning p fr ρ c ↔ StateEq p s fr ρ c ∧ CrossSeq p s c := by
  have key := fun ci hci ti (hti : ti < trials p - c.preamble) =>
    comboSel_eq_comboIs p hwf hx s ρ hag c hc hfac ci hci (c.preamble + 1 + ti)
      (Nat.lt_add_right _ (Nat.lt_succ_self _)) (Nat.add_right_comm .. ▸ Nat.add_lt_of_lt_sub' hti)
  exact and_congr
    (forall₂_congr fun ti ci => forall₂_congr fun hti hci => by rw [key ci hci ti hti])
    (forall₂_congr fun ci hci => forall₂_congr fun j _ => by rw [chunkCount_congr (key ci hci)])

theorem block_index {T N ti ci : Nat} (hti : ti < T) (hci : ci < N) :
    ti * N + ci < T * N ∧ (ti * N + ci) % N = ci ∧ (ti * N + ci) / N = ti := by
  refine ⟨?_, ?_, ?_⟩
  · rw [Nat.mul_comm ti, Nat.mul_comm T, Nat.add_comm]
    exact add_mul_lt ci N ti T hci hti
  · rw [Nat.mul_comm, Nat.mul_add_mod, Nat.mod_eq_of_lt hci]
  · rw [Nat.mul_comm, Nat.mul_add_div (Nat.zero_lt_of_lt hci), Nat.div_eq_of_lt hci]; rfl

/-- the state variables of a crossing are the block `[fr, fr + T * N)`; `fr + ti * N + ci` is set to "combination
    `ci` is selected in crossing trial `ti`" -/
theorem settable_stateEq (p : PInput) (s : TSeq) (c : PCrossing) :
    Chain.Settable (crossFreshAfter p) (StateEq p s) c := by
  intro fr ρ₀
  have hge : fr + _ ≤ crossFreshAfter p fr c := crossStep_fresh_ge p c { fresh := fr, cnfs := [], reqs := [] }
  generalize hT : trials p - c.preamble = T at hge
  generalize hN : c.combos.length = N at hge
  refine ⟨Nat.le_trans (Nat.le_add_right ..) hge, fun v => if fr ≤ v ∧ v < fr + T * N then
    comboIs s c ((v - fr) % N) (c.preamble + 1 + (v - fr) / N) else ρ₀ v,
    fun v hv => if_neg fun h => Nat.not_le.2 hv h.1, fun ρ' hρ' ti ci hti hci => ?_⟩
  rw [hT] at hti
  rw [hN] at hci ⊢
  obtain ⟨hlt, e1, e2⟩ := block_index hti hci
  have hlt := Nat.add_lt_add_left hlt fr
  rw [Nat.add_assoc, hρ' _ (Nat.lt_of_lt_of_le hlt hge)]
  dsimp only
  rw [if_pos ⟨Nat.le_add_right .., hlt⟩, Nat.add_sub_cancel_left, e1, e2]

/-- the state variables a constraint introduces (only `Cross` has any) carry what `s` says -/
def States (p : PInput) (s : TSeq) (fr : Nat) (ρ : Assign) (c : PConstraint) : Prop :=
  c = .cross → Chain.All (crossFreshAfter p) (StateEq p s) fr ρ p.crossings

theorem meaning_iff_states_seqMeaning (p : PInput) (hwf : C14.WF p.layout) (hseq : seqOk p = true) (hx : CrossOk p)
    (s : TSeq) (hs : WellShaped p s) (ρ : Assign) (hag : Agree (variablesPerSample p.layout) (assignOf p s) ρ)
    (c : PConstraint) (hc : c ∈ p.constraints) (hok : ConstraintOk p c) (fr : Nat) :
    Meaning p fr ρ c ↔ States p s fr ρ c ∧ SeqMeaning p s c := by
  by_cases hcr : c = .cross
  · subst hcr
    have hokc : ∀ c ∈ p.crossings, c.preamble < trials p ∧ 0 < c.size * c.weight ∧
        ∀ i ∈ c.factors, i < p.layout.factors.length := hok
    show CrossMeaningAll p fr p.crossings ρ ↔ _
    rw [crossMeaningAll_eq, States, forall_prop_of_true rfl]
    exact Chain.all_iff _ _ fun c hc fr => crossMeaning_iff p hwf hx s ρ hag c hc (hokc c hc).2.2 fr
  · rw [meaning_iff_seqMeaning p hwf hseq s hs ρ hag fr c hc hok hcr]
    exact (and_iff_right fun h => absurd h hcr).symm

theorem settable_states (p : PInput) (s : TSeq) (c : PConstraint) : Chain.Settable (freshAfter p) (States p s) c := by
  intro fr ρ₀
  by_cases hcr : c = .cross
  · subst hcr
    rw [freshAfter_cross]
    obtain ⟨hle, ρ, h0, h⟩ := Chain.settable_all _ (fun c _ => settable_stateEq p s c) fr ρ₀
    exact ⟨hle, ρ, h0, fun ρ' hρ' _ => h ρ' hρ'⟩
  · exact ⟨(Chain.Steady.applyConstraint p c).le { fresh := fr, cnfs := [], reqs := [] }, ρ₀, fun _ _ => rfl,
      fun _ _ h => absurd h hcr⟩

/-- C02: the assignment encoding `s` extends to one with every constraint's meaning iff `s` has every constraint's
    sequence-level meaning (for `hx` see `CrossOk`) -/
theorem meaningAll_iff_seq (p : PInput) (hwf : C14.WF p.layout) (hok : ∀ c ∈ p.constraints, ConstraintOk p c)
    (hseq : seqOk p = true) (hx : CrossOk p) (s : TSeq) (hs : WellShaped p s) :
    (∃ ρ, Agree (variablesPerSample p.layout) (assignOf p s) ρ ∧
        MeaningAll p (variablesPerSample p.layout + 1) p.constraints ρ) ↔
      ∀ c ∈ p.constraints, SeqMeaning p s c := by
  have split : ∀ ρ, Agree (variablesPerSample p.layout) (assignOf p s) ρ → ∀ fr, (MeaningAll p fr p.constraints ρ ↔
      Chain.All (freshAfter p) (States p s) fr ρ p.constraints ∧ ∀ c ∈ p.constraints, SeqMeaning p s c) :=
    fun ρ hag fr => by
      rw [meaningAll_eq]
      exact Chain.all_iff _ _ fun c hc fr => meaning_iff_states_seqMeaning p hwf hseq hx s hs ρ hag c hc (hok c hc) fr
  constructor
  · rintro ⟨ρ, hag, hm⟩
    exact ((split ρ hag _).1 hm).2
  · intro h
    -- the state variables are set block after block above the design variables
    obtain ⟨_, ρ, hρ1, hρ⟩ := Chain.settable_all _ (fun c _ => settable_states p s c)
      (variablesPerSample p.layout + 1) (assignOf p s)
    have hag : Agree (variablesPerSample p.layout) (assignOf p s) ρ :=
      fun v _ hv2 => (hρ1 v (Nat.lt_succ_of_le hv2)).symm
    exact ⟨ρ, hag, (split ρ hag _).2 ⟨hρ ρ fun _ _ => rfl, h⟩⟩

end SPModel.Pipeline

namespace SPModel.C02
open SPModel Pipeline Layout

theorem sequence_unique (p : PInput) (hc : checkWf p = (true, true, true)) (s₁ s₂ : TSeq)
    (h₁ : WellShaped p s₁) (h₂ : WellShaped p s₂) (τ : Assign)
    (a₁ : Agree (variablesPerSample p.layout) (assignOf p s₁) τ)
    (a₂ : Agree (variablesPerSample p.layout) (assignOf p s₂) τ) :
    ∀ i f, p.layout.factors[i]? = some f → ∀ t ∈ applicable f 0 (trials p), s₁ i (t + 1) = s₂ i (t + 1) :=
  have _ := h₂
  assignOf_inj p (checkWf_input p hc).1 s₁ s₂ h₁ (a₁.trans a₂.symm)

/-- C02, the compiled formula and the trial sequences.  Under the decidable side conditions (the driver evaluates them
    on every real block of the correspondence run): every sequence `PValid` accepts is the design-variable projection
    of a model of φ, and every model projects to an accepted sequence; the sequence is unique (`sequence_unique`), and
    so is the model (`model_unique`). -/
theorem sequences_iff_models (p : PInput) (hc : checkWf p = (true, true, true)) (hseq : seqOk p = true)
    (hx : crossOk p = true) (φ : Cnf) (hφ : buildCnf p = .ok φ) :
    (∀ s, PValid p s → ∃ τ, Agree (variablesPerSample p.layout) (assignOf p s) τ ∧ cnfSat τ φ = true) ∧
    (∀ τ, cnfSat τ φ = true → ∃ s, PValid p s ∧ Agree (variablesPerSample p.layout) (assignOf p s) τ) := by
  obtain ⟨hwf, hok⟩ := checkWf_input p hc
  have hx := crossOk_spec p hx
  refine ⟨fun s hv => ?_, fun τ hτ => ?_⟩
  · exact (models_iff_meaning p hc φ hφ (assignOf p s)).2 ((meaningAll_iff_seq p hwf hok hseq hx s hv.1).2 hv.2)
  · obtain ⟨ρ, hτρ, hm⟩ := (models_iff_meaning p hc φ hφ τ).1 ⟨τ, Agree.refl _ _, hτ⟩
    obtain ⟨_, hcons⟩ := (meaningAll_eq p ρ _ _ ▸ hm).of_mem (seqOk_spec p hseq).2.2
    obtain ⟨s, hs, hag⟩ := exists_seq_of_consistency p hwf ρ hcons
    exact ⟨s, ⟨hs, (meaningAll_iff_seq p hwf hok hseq hx s hs).1 ⟨ρ, hag, hm⟩⟩, hag.trans hτρ.symm⟩

end SPModel.C02
