/-
  `map_block_trial_ranges` (`ranges`) in closed form, `get_trial_numbers` (`mem_trialNumbers`), and the lists of
  `Block.build_variable_lists`: `variableLists_eq`, the list for a range is the level's `encodeVar` over the range's
  applicable trials, in order (for a complex window, the offset arithmetic repaired by fix F21 of DESIGN.md).
-/
import SPModel.Pipeline
import SPProofs.Properties.C14
import SPProofs.Basic.List

namespace SPModel.Pipeline
open SPModel Layout

theorem filterMap_range_prefix {α : Type} (g : Nat → Option α) (h : Nat → α) (m N : Nat) (hmN : m ≤ N)
    (h1 : ∀ j, j < m → g j = some (h j)) (h2 : ∀ j, m ≤ j → g j = none) :
    (List.range N).filterMap g = (List.range m).map h := by
  obtain ⟨k, rfl⟩ := Nat.exists_eq_add_of_le hmN
  rw [List.range_add, List.filterMap_append, List.filterMap_eq_map_of_some fun j hj => h1 j (List.mem_range.1 hj),
    List.filterMap_eq_nil_iff.2, List.append_nil]
  intro x hx
  obtain ⟨u, _, rfl⟩ := List.mem_map.1 hx
  exact h2 _ (Nat.le_add_right m u)

theorem take_drop_range (T a n : Nat) :
    ((List.range T).drop a).take n = (List.range (min n (T - a))).map (a + ·) := by
  rw [List.range_eq_range', List.drop_range', Nat.mul_one, Nat.zero_add, List.range'_eq_map_range, ← List.map_take,
    List.take_range]

theorem lt_ceil_div (m s j : Nat) (hs : 0 < s) : j < (m + s - 1) / s ↔ j * s < m := by
  rw [Nat.lt_div_iff_mul_lt hs, Nat.add_sub_assoc hs, Nat.add_sub_cancel]

theorem mem_applicable_simple {b : LBlock} (hwf : C14.WF b) {i : Nat} {f : LFactor}
    (hf : b.factors[i]? = some f) (hc : f.complex = false) (n t : Nat) :
    t ∈ applicable f 0 n ↔ t < n := by
  obtain ⟨h0, h1⟩ := hwf.simple f (List.mem_of_getElem? hf) hc
  simp only [mem_applicable, Nat.zero_le, appliesTrial_of_simple f h0 h1, true_and, and_true]

/-- `variables_for_factor(f, a, b)` counts the applicable trials of the range (`b = 0` would mean "to the end") -/
theorem varsForFactorIn_eq (p : PInput) (f : LFactor) (a b : Nat) (hb : b ≠ 0) :
    varsForFactorIn p f a b = f.nlevels * (applicable f a b).length := by
  rw [varsForFactorIn, if_neg hb, applicable, List.filter_map, List.length_map]
  rfl

theorem factorAt_eq (p : PInput) (i : Nat) (f : LFactor) (hf : p.layout.factors[i]? = some f) :
    factorAt p i = f := by
  simp [factorAt, hf]

theorem factorAt_get (p : PInput) (i : Nat) (hi : i < p.layout.factors.length) :
    p.layout.factors[i]? = some (factorAt p i) := by
  simp [factorAt, List.getElem?_eq_getElem hi]

theorem forall_factorAt (p : PInput) (P : Nat → LFactor → Prop) :
    (∀ i, i < p.layout.factors.length → P i (factorAt p i)) ↔ ∀ i f, p.layout.factors[i]? = some f → P i f :=
  ⟨fun h i f hf => factorAt_eq p i f hf ▸ h i (List.getElem?_eq_some_iff.1 hf).1,
    fun h i hi => h i _ (factorAt_get p i hi)⟩

/-- a block-scoped geometry has a positive length -/
def WithinOk (within : Option (Nat × Nat)) : Prop := ∀ len pre, within = some (len, pre) → 0 < len

theorem withinOk_none : WithinOk none := nofun

theorem ranges_none (p : PInput) : ranges p none = if 0 < trials p then [(0, trials p)] else [] := rfl

theorem ranges_some_eq (p : PInput) (len pre : Nat) (hstep : pre < len) :
    ranges p (some (len, pre)) =
      (List.range ((trials p - pre - (if p.postPreamble then p.commonPreamble - pre else 0) + (len - pre) - 1) /
          (len - pre))).map
        (fun j => ((if p.postPreamble then p.commonPreamble - pre else 0) + j * (len - pre), len + j * (len - pre))) := by
  have hs : 0 < len - pre := Nat.sub_pos_of_lt hstep
  simp only [ranges, Nat.ne_of_gt hs, if_false]
  generalize (if p.postPreamble = true then p.commonPreamble - pre else 0) = start
  have hlt : ∀ j, j < (trials p - pre - start + (len - pre) - 1) / (len - pre) ↔
      start + j * (len - pre) < trials p - pre := fun j => by
    rw [lt_ceil_div _ _ _ hs, Nat.lt_sub_iff_add_lt']
  refine filterMap_range_prefix _ _ _ _ ?_ (fun j hj => if_pos ((hlt j).1 hj)) (fun j hj => if_neg fun h => ?_)
  · -- `trials p + 1` candidates are enough: the `j`-th start is at least `j`
    refine Nat.le_of_not_lt fun h => ?_
    have h1 : start + (trials p + 1) * (len - pre) < trials p := Nat.lt_of_lt_of_le ((hlt _).1 h) (Nat.sub_le _ _)
    have h2 : trials p + 1 ≤ start + (trials p + 1) * (len - pre) :=
      Nat.le_trans (Nat.le_mul_of_pos_right _ hs) (Nat.le_add_left _ _)
    exact Nat.lt_irrefl _ (Nat.lt_trans (Nat.lt_of_le_of_lt h2 h1) (Nat.lt_succ_self _))
  · exact Nat.not_le.2 ((hlt j).2 h) hj

theorem mem_ranges_some (p : PInput) (len pre : Nat) (hstep : pre < len) (r : Nat × Nat) :
    r ∈ ranges p (some (len, pre)) ↔
      ∃ j, r = ((if p.postPreamble then p.commonPreamble - pre else 0) + j * (len - pre), len + j * (len - pre)) ∧
        (if p.postPreamble then p.commonPreamble - pre else 0) + j * (len - pre) < trials p - pre := by
  rw [ranges_some_eq p len pre hstep]
  generalize (if p.postPreamble = true then p.commonPreamble - pre else 0) = start
  simp only [List.mem_map, List.mem_range, lt_ceil_div _ _ _ (Nat.sub_pos_of_lt hstep)]
  exact exists_congr fun j => by rw [Nat.lt_sub_iff_add_lt', eq_comm, and_comm]

theorem ranges_tile (p : PInput) (len m : Nat) (hl : 0 < len) (hn : trials p = m * len) (hp : p.postPreamble = false) :
    ranges p (some (len, 0)) = (List.range m).map (fun j => (j * len, (j + 1) * len)) := by
  rw [ranges_some_eq p len 0 hl]
  simp only [hp, hn, Nat.sub_zero, Nat.zero_add, Bool.false_eq_true, if_false, Nat.add_mul, Nat.one_mul,
    Nat.add_comm len]
  rw [Nat.add_sub_assoc hl, Nat.add_comm, Nat.add_mul_div_right _ _ hl, Nat.div_eq_of_lt (Nat.sub_lt hl Nat.one_pos), Nat.zero_add]

theorem ranges_snd_pos (p : PInput) (within : Option (Nat × Nat)) (hw : WithinOk within) :
    ∀ r ∈ ranges p within, 0 < r.2 := by
  intro r hr
  rcases within with _ | ⟨len, pre⟩
  · rw [ranges_none, List.mem_ite_nil_right, List.mem_singleton] at hr
    rw [hr.2]
    exact hr.1
  · have hlen := hw len pre rfl
    by_cases hs : len - pre = 0
    · -- the degenerate geometry has at most the range `(start, len)`
      dsimp only [ranges] at hr
      rw [if_pos hs, List.mem_ite_nil_right, List.mem_singleton] at hr
      rw [hr.2]
      exact hlen
    · rw [ranges_some_eq p len pre (Nat.lt_of_sub_ne_zero hs)] at hr
      obtain ⟨j, _, rfl⟩ := List.mem_map.1 hr
      exact Nat.add_pos_left hlen _

theorem variableLists_eq (p : PInput) (hwf : C14.WF p.layout) (i l : Nat) (f : LFactor)
    (hf : p.layout.factors[i]? = some f) (within : Option (Nat × Nat)) (hw : WithinOk within) :
    variableLists p i l within =
      (ranges p within).map (fun r => (applicable f r.1 r.2).map (fun t => enc p i l (t + 1))) := by
  obtain ⟨_, _, hnl, hsimple⟩ := hwf f (List.mem_of_getElem? hf)
  -- a trial's variable is determined by the number of applicable trials before it
  have henc : (fun t => enc p i l (t + 1)) =
      (fun c => ((firstVariableForLevel p.layout i l + 1 + c * rowWidth p.layout f : Nat) : Int)) ∘ appliedCount f :=
    funext fun t => by
      rw [Function.comp, enc, encodeVar_eq _ _ _ _ f hf, ← firstVariableForLevel_eq _ _ _ f hf, previousCount,
        Nat.add_sub_cancel, Nat.add_right_comm, Nat.mul_comm]
  rw [variableLists, factorAt_eq p i f hf]
  refine List.map_congr_left fun r hr => ?_
  rw [henc, ← List.map_map, applicable_counts, List.range'_eq_map_range, List.map_map]
  cases hc : f.complex with
  | false =>
    obtain ⟨h0, h1⟩ := hsimple hc
    have hall := appliesTrial_of_simple f h0 h1
    simp only [rowWidth, hc, Bool.false_eq_true, if_false, applicable_all f hall, appliedCount_all f hall,
      List.length_map, List.length_range, vpt]
    exact List.map_congr_left fun j _ => by rw [Function.comp, Nat.add_mul, Nat.add_assoc]
  | true =>
    have hb : r.2 ≠ 0 := Nat.ne_of_gt (ranges_snd_pos p within hw r hr)
    have hn : varsForFactorIn p f r.1 r.2 / f.nlevels = (applicable f r.1 r.2).length := by
      rw [varsForFactorIn_eq p f _ _ hb, Nat.mul_div_cancel_left _ hnl]
    have hbefore : (if r.1 > 0 then varsForFactorIn p f 0 r.1 / f.nlevels else 0) = appliedCount f r.1 := by
      split
      · next h =>
        rw [varsForFactorIn_eq p f _ _ (Nat.ne_of_gt h), Nat.mul_div_cancel_left _ hnl, appliedCount_eq_length]
      · next h => rw [Nat.eq_zero_of_not_pos h, appliedCount_zero]
    simp only [rowWidth, hc, if_true, hn, hbefore]
    exact List.map_congr_left fun v _ => by rw [Function.comp, Nat.add_comm v]

theorem forall_variableLists_none (p : PInput) (hwf : C14.WF p.layout) (i l : Nat) (f : LFactor)
    (hf : p.layout.factors[i]? = some f) (Q : List Int → Prop) (h0 : Q []) :
    (∀ vars ∈ variableLists p i l none, Q vars) ↔
      Q ((applicable f 0 (trials p)).map (fun t => enc p i l (t + 1))) := by
  rw [variableLists_eq p hwf i l f hf none withinOk_none, List.forall_mem_map, ranges_none]
  split
  · exact List.forall_mem_singleton
  · next h =>
    rw [Nat.eq_zero_of_not_pos h]
    exact iff_of_true nofun h0

theorem mem_trialNumbers (p : PInput) (idx : Int) (within : Option (Nat × Nat)) (s t : Nat) :
    t ∈ trialNumbers p idx within s ↔
      ∃ r ∈ ranges p within, ∃ j, j < s ∧
        let base : Int := if idx < 0 then (r.2 : Int) + (s : Int) * idx else (r.1 : Int) + (s : Int) * idx
        (r.1 : Int) ≤ base ∧ base < (r.2 : Int) ∧ (t : Int) = base + j := by
  simp only [trialNumbers, List.mem_flatMap]
  refine exists_congr fun r => and_congr_right fun _ => ?_
  generalize (if idx < 0 then (r.2 : Int) + (s : Int) * idx else (r.1 : Int) + (s : Int) * idx) = base
  by_cases hcond : (r.1 : Int) ≤ base ∧ base < (r.2 : Int)
  · have htn : ((base.toNat : Nat) : Int) = base :=
      Int.toNat_of_nonneg (Int.le_trans (Int.natCast_nonneg _) hcond.1)
    simp only [if_pos hcond, List.mem_map, List.mem_range]
    refine exists_congr fun j => and_congr_right fun _ => ⟨fun h => ⟨hcond.1, hcond.2, ?_⟩, fun h => ?_⟩
    · rw [← h, Int.natCast_add, htn]
    · exact Int.ofNat_inj.1 (by rw [Int.natCast_add, htn]; exact h.2.2.symm)
  · simp only [if_neg hcond, List.not_mem_nil, false_iff]
    exact fun ⟨j, _, h1, h2, _⟩ => hcond ⟨h1, h2⟩

end SPModel.Pipeline
