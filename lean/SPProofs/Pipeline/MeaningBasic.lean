/-
  What `Consistency`, `Sequential`, `Sustain` and a `Derivation` without complex window
  mean for an assignment, as `Pipeline.applyConstraint` compiles them.
-/
import SPProofs.Pipeline.Sel

namespace SPModel.Pipeline
open SPModel Layout

/- `MB`: the helpers of this file.  Its first eight lemmas restate facts of `Logic/Lemmas`, `Basic/Lits`, `VarLists`
   and `Sel` (`eval_lit` for the pipeline's own `lit`).  A trap: after `open MB` the short names `eval_and`, `eval_or`,
   `eval_iff`, `lt_ceil_div`, `holds_addReqs` still mean the lemmas of the enclosing namespaces (same statements):
   an enclosing namespace takes precedence over an `open`. -/
namespace MB

theorem eval_and (τ : Assign) (l : List Formula) : Formula.eval τ (.and l) = l.all (Formula.eval τ) :=
  SPModel.eval_and τ l

theorem eval_or (τ : Assign) (l : List Formula) : Formula.eval τ (.or l) = l.any (Formula.eval τ) :=
  SPModel.eval_or τ l

theorem eval_and_true (τ : Assign) (l : List Formula) :
    Formula.eval τ (.and l) = true ↔ ∀ g ∈ l, Formula.eval τ g = true :=
  SPModel.eval_and_iff τ l

theorem eval_lit (τ : Assign) (x : Int) : Formula.eval τ (lit x) = litVal τ x := by
  rw [lit]; exact SPModel.eval_lit τ x

theorem eval_iff (τ : Assign) (a b : Formula) :
    Formula.eval τ (.iff a b) = true ↔ Formula.eval τ a = Formula.eval τ b :=
  SPModel.eval_iff τ a b

theorem litVal_succ (ρ : Assign) (n : Nat) : litVal ρ ((n + 1 : Nat) : Int) = ρ (n + 1) :=
  litVal_natCast ρ (n + 1) (Nat.succ_pos n)

theorem lt_ceil_div (m s j : Nat) (hs : 0 < s) : j < (m + s - 1) / s ↔ j * s < m :=
  Pipeline.lt_ceil_div m s j hs

theorem holds_addReqs (b : Backend) (rs : List Request) (ρ : Assign) :
    ({ b with reqs := b.reqs ++ rs } : Backend).holds ρ = true ↔ b.holds ρ = true ∧ ∀ r ∈ rs, r.holds ρ = true :=
  Pipeline.holds_addReqs b rs ρ

/-- the requests one pass over the factors selected by `q` produces, starting at counter `a` -/
def rowReqs (q : LFactor → Bool) (g : LFactor → Nat) (mk : Nat → LFactor → List Request) (a : Nat) :
    List LFactor → List Request
  | [] => []
  | f :: fs => if q f then mk a f ++ rowReqs q g mk (a + g f) fs else rowReqs q g mk a fs

theorem foldl_rowReqs (q : LFactor → Bool) (g : LFactor → Nat) (mk : Nat → LFactor → List Request)
    (fs : List LFactor) (acc : Nat × List Request) :
    (fs.filter q).foldl (fun (acc : Nat × List Request) f => (acc.1 + g f, acc.2 ++ mk acc.1 f)) acc =
      (acc.1 + sumIf q g fs, acc.2 ++ rowReqs q g mk acc.1 fs) := by
  induction fs generalizing acc with
  | nil => simp [rowReqs]
  | cons x xs ih =>
    by_cases hq : q x = true
    · simp only [List.filter_cons, hq, if_true, List.foldl_cons, ih, sumIf_cons, rowReqs, List.append_assoc,
        Nat.add_assoc]
    · simp only [List.filter_cons, hq, if_false, ih, sumIf_cons, rowReqs, Nat.zero_add, Bool.false_eq_true]

theorem forall_mem_rowReqs (q : LFactor → Bool) (g : LFactor → Nat) (mk : Nat → LFactor → List Request)
    (fs : List LFactor) (a : Nat) (P : Request → Prop) :
    (∀ r ∈ rowReqs q g mk a fs, P r) ↔
      ∀ i f, fs[i]? = some f → q f = true → ∀ r ∈ mk (a + sumIf q g (fs.take i)) f, P r := by
  induction fs generalizing a with
  | nil => exact ⟨fun _ i f hf => (nomatch hf), fun _ r hr => (nomatch hr)⟩
  | cons x xs ih =>
    have hsplit : ∀ Q : Nat → Prop, (∀ i, Q i) ↔ Q 0 ∧ ∀ i, Q (i + 1) := fun Q =>
      ⟨fun h => ⟨h 0, fun i => h _⟩, fun h i => by cases i with | zero => exact h.1 | succ i => exact h.2 i⟩
    rw [hsplit, rowReqs]
    simp only [List.getElem?_cons_zero, List.getElem?_cons_succ, List.take_zero, List.take_succ_cons, sumIf_nil,
      sumIf_cons, Option.some.injEq, forall_eq', Nat.add_zero, ← Nat.add_assoc]
    split
    · next hq => rw [List.forall_mem_append, ih]; exact and_congr_left' ⟨fun h _ => h, fun h => h hq⟩
    · next hq => rw [ih]; exact (and_iff_right fun h => absurd h hq).symm

theorem foldl_range_rows (V : Nat) (R : Nat → List Request) (step : Nat × List Request → Nat × List Request)
    (hstep : ∀ acc, step acc = (acc.1 + V, acc.2 ++ R acc.1)) (n : Nat) (acc : Nat × List Request) :
    (List.range n).foldl (fun acc _ => step acc) acc =
      (acc.1 + n * V, acc.2 ++ (List.range n).flatMap (fun t => R (acc.1 + t * V))) := by
  induction n with
  | zero => simp
  | succ n ih =>
    rw [List.range_succ, List.foldl_append, ih, List.foldl_cons, List.foldl_nil, hstep, List.flatMap_append,
      List.flatMap_singleton, List.append_assoc, Nat.succ_mul, Nat.add_assoc]

/-- `EQ 1` over the `n` variables from `a` on: the levels of one factor in one trial.  This and the next two are
    reducible, so that the folds of `applyConsistency` are recognised as instances of `foldl_rowReqs`. -/
abbrev oneOf (a n : Nat) : Request :=
  { rel := .eq, k := 1, vars := (List.range n).map (fun j => ((a + j : Nat) : Int)) }

abbrev gridReq (a : Nat) (f : LFactor) : List Request := [oneOf a f.nlevels]

abbrev chunkReqs (b : LBlock) (a : Nat) (f : LFactor) : List Request :=
  ((List.range (if f.nlevels = 0 then 0 else (variablesForFactor b f + f.nlevels - 1) / f.nlevels)).map (fun c =>
    (((List.range (variablesForFactor b f)).drop (c * f.nlevels)).take f.nlevels).map
      (fun n => ((n + a : Nat) : Int)))).map (fun v => { rel := .eq, k := 1, vars := v })

theorem applyConsistency_eq (p : PInput) (b : Backend) :
    applyConsistency p b = { b with reqs := b.reqs ++
      ((List.range (trials p)).flatMap (fun t =>
          rowReqs (fun f => !f.complex) (·.nlevels) gridReq (1 + t * vpt p) p.layout.factors) ++
        rowReqs (·.complex) (variablesForFactor p.layout) (chunkReqs p.layout) (1 + gridVariables p.layout)
          p.layout.factors) } := by
  have hgrid := foldl_range_rows _ (fun a => rowReqs (fun f => !f.complex) (·.nlevels) gridReq a p.layout.factors) _
    (foldl_rowReqs (fun f => !f.complex) (·.nlevels) gridReq p.layout.factors) (trials p) (1, [])
  have hrest := foldl_rowReqs (·.complex) (variablesForFactor p.layout) (chunkReqs p.layout) p.layout.factors
    (1 + trials p * variablesPerTrial p.layout, [])
  rw [← variablesPerTrial_eq] at hgrid
  dsimp only [applyConsistency]
  -- the second fold starts where the grid's counter stopped
  rw [hgrid, hrest, List.append_assoc]
  rfl

theorem holds_oneOf (p : PInput) (ρ : Assign) (i t : Nat) (f : LFactor) (hf : p.layout.factors[i]? = some f) :
    (oneOf (encodeVar p.layout i 0 t) f.nlevels).holds ρ = true ↔
      ((List.range f.nlevels).filter (fun l => sel p ρ i l t)).length = 1 := by
  have : (litVal ρ ∘ fun l => ((encodeVar p.layout i 0 t + l : Nat) : Int)) = fun l => sel p ρ i l t :=
    funext fun l => by rw [Function.comp, ← encodeVar_level _ i l t f hf]; exact (litVal_enc p ρ i l t f hf).1
  simp only [Request.holds, List.filter_map, List.length_map, beq_iff_eq, this]

theorem grid_holds (p : PInput) (hwf : C14.WF p.layout) (ρ : Assign) :
    (∀ r ∈ (List.range (trials p)).flatMap (fun t =>
        rowReqs (fun f => !f.complex) (·.nlevels) gridReq (1 + t * vpt p) p.layout.factors), r.holds ρ = true) ↔
      ∀ i f, p.layout.factors[i]? = some f → f.complex = false → ∀ t ∈ applicable f 0 (trials p),
        ((List.range f.nlevels).filter (fun l => sel p ρ i l (t + 1))).length = 1 := by
  -- the counter at factor `i` in trial `t` is the factor's first variable of that trial
  have hvar : ∀ i f, p.layout.factors[i]? = some f → f.complex = false → ∀ t,
      1 + t * vpt p + sumIf (fun g => !g.complex) (·.nlevels) (p.layout.factors.take i) =
        encodeVar p.layout i 0 (t + 1) := fun i f hf hc t => by
    rw [encodeVar_simple p.layout i 0 (t + 1) f hf hc, C14.previousCount_simple hwf hf hc, simpleOffset, vpt,
      Nat.add_sub_cancel, Nat.mul_comm t, Nat.add_comm 1, Nat.add_right_comm, Nat.add_comm (_ * t)]
    rfl
  simp only [List.forall_mem_flatMap, List.mem_range, forall_mem_rowReqs, List.forall_mem_singleton,
    Bool.not_eq_true']
  refine ⟨fun h i f hf hc t ht => ?_, fun h t ht i f hf hc => ?_⟩
  · have := h t ((mem_applicable_simple hwf hf hc _ t).1 ht) i f hf hc
    rwa [hvar i f hf hc t, holds_oneOf p ρ i (t + 1) f hf] at this
  · rw [hvar i f hf hc t, holds_oneOf p ρ i (t + 1) f hf]
    exact h i f hf hc t ((mem_applicable_simple hwf hf hc _ t).2 ht)

theorem chunkReqs_eq (b : LBlock) (a : Nat) (f : LFactor) (hn : 0 < f.nlevels) :
    chunkReqs b a f = (List.range (appliedCount f b.trials)).map (fun c => oneOf (c * f.nlevels + a) f.nlevels) := by
  have e : (f.nlevels * appliedCount f b.trials + f.nlevels - 1) / f.nlevels = appliedCount f b.trials := by
    rw [Nat.add_sub_assoc hn, Nat.mul_add_div hn, Nat.div_eq_of_lt (Nat.sub_lt hn Nat.one_pos), Nat.add_zero]
  simp only [chunkReqs, if_neg (Nat.ne_of_gt hn), variablesForFactor, e, List.map_map]
  refine List.map_congr_left fun c hc => ?_
  -- a whole chunk: `c + 1 ≤ appliedCount`
  have hle : f.nlevels ≤ f.nlevels * appliedCount f b.trials - c * f.nlevels := by
    rw [Nat.mul_comm c, ← Nat.mul_sub]
    exact Nat.le_mul_of_pos_right _ (Nat.sub_pos_of_lt (List.mem_range.1 hc))
  simp only [Function.comp, take_drop_range, Nat.min_eq_left hle, List.map_map]
  exact congrArg (Request.mk .eq 1) (List.map_congr_left fun l _ => by rw [Function.comp, Nat.add_right_comm])

theorem cplx_holds (p : PInput) (hwf : C14.WF p.layout) (ρ : Assign) :
    (∀ r ∈ rowReqs (·.complex) (variablesForFactor p.layout) (chunkReqs p.layout) (1 + gridVariables p.layout)
        p.layout.factors, r.holds ρ = true) ↔
      ∀ i f, p.layout.factors[i]? = some f → f.complex = true → ∀ t ∈ applicable f 0 (trials p),
        ((List.range f.nlevels).filter (fun l => sel p ρ i l (t + 1))).length = 1 := by
  rw [forall_mem_rowReqs]
  refine forall_congr' fun i => forall_congr' fun f => imp_congr_right fun hf => imp_congr_right fun hc => ?_
  have hn : 0 < f.nlevels := (hwf f (List.mem_of_getElem? hf)).2.2.1
  rw [chunkReqs_eq _ _ f hn, List.forall_mem_map]
  simp only [List.mem_range]
  refine (forall_applicable f (trials p) _).trans (forall_congr' fun t => imp_congr_right fun _ => ?_)
  -- the `c`-th chunk of the factor starts at the first variable of its `c`-th applicable trial
  have hvar : appliedCount f t * f.nlevels + (1 + gridVariables p.layout +
      sumIf (·.complex) (variablesForFactor p.layout) (p.layout.factors.take i)) = encodeVar p.layout i 0 (t + 1) := by
    rw [encodeVar_complex p.layout i 0 (t + 1) f hf hc, complexOffset, previousCount, Nat.add_sub_cancel,
      Nat.mul_comm (appliedCount f t), Nat.add_comm, Nat.add_assoc 1, Nat.add_comm 1, Nat.add_right_comm _ 1]
    rfl
  rw [hvar]
  exact holds_oneOf p ρ i (t + 1) f hf

end MB

open MB

/-- `Consistency`: in every trial a factor applies to, exactly one of its levels is selected -/
theorem consistency_meaning (p : PInput) (hwf : C14.WF p.layout) (b : Backend) (ρ : Assign) :
    (applyConstraint p b .consistency).holds ρ = true ↔
      b.holds ρ = true ∧
        ∀ i f, p.layout.factors[i]? = some f → ∀ t ∈ applicable f 0 (trials p),
          ((List.range f.nlevels).filter (fun l => sel p ρ i l (t + 1))).length = 1 := by
  dsimp only [applyConstraint]
  rw [applyConsistency_eq, holds_addReqs, List.forall_mem_append, grid_holds p hwf ρ, cplx_holds p hwf ρ]
  refine and_congr_right fun _ => ⟨fun h i f hf => ?_, fun h => ⟨fun i f hf _ => h i f hf, fun i f hf _ => h i f hf⟩⟩
  cases hc : f.complex
  · exact h.1 i f hf hc
  · exact h.2 i f hf hc

theorem MB.eval_pick (p : PInput) (ρ : Assign) (i l t u : Nat) (f : LFactor) (hf : p.layout.factors[i]? = some f) :
    Formula.eval ρ (if l = u then lit (enc p i l t) else Formula.not (lit (enc p i l t))) = true ↔
      sel p ρ i l t = decide (l = u) := by
  have h := (litVal_enc p ρ i l t f hf).1
  by_cases hlu : l = u
  · simp only [hlu, if_true, eval_lit, decide_true]
    rw [← hlu, h]
  · simp only [hlu, if_false, eval_not, eval_lit, decide_false, h]
    simp

/-- `Sequential`: after the preamble the levels follow the declaration order cyclically, one per sustained group -/
theorem sequential_meaning (p : PInput) (b : Backend) (i : Nat) (f : LFactor)
    (hf : p.layout.factors[i]? = some f) (hs : 0 < f.sustain) (hl : 0 < f.nlevels) (pre : Nat) (ρ : Assign) :
    (applyConstraint p b (.sequential i pre)).holds ρ = true ↔
      b.holds ρ = true ∧
        ∀ j, pre + j * f.sustain < trials p → ∀ l, l < f.nlevels →
          sel p ρ i l (pre + j * f.sustain + 1) = decide (l = j % f.nlevels) := by
  have hfa := factorAt_eq p i f hf
  refine (holds_pushFormula b _ ρ).trans (and_congr_right fun _ => ?_)
  -- one conjunct per step `pre + j * sustain` below `trials` and level (`eval_pick`); the step's level is `j % nlevels`
  simp only [hfa, if_neg (Nat.ne_of_gt hs), if_neg (Nat.ne_of_gt hl), eval_and_true, List.forall_mem_flatMap,
    List.forall_mem_map, List.mem_range, lt_ceil_div _ _ _ hs, eval_pick p ρ i _ _ _ f hf,
    Nat.add_sub_cancel_left, Nat.mul_div_cancel _ hs, Nat.lt_sub_iff_add_lt']

theorem MB.sustain_factor (p : PInput) (hwf : C14.WF p.layout) (ρ : Assign) (i l : Nat) (f : LFactor)
    (hf : p.layout.factors[i]? = some f) :
    (∀ vars ∈ variableLists p i l none, ∀ j, j < vars.length →
        Formula.eval ρ (Formula.iff (lit (vars.getD j 0)) (lit (vars.getD ((j / f.sustain) * f.sustain) 0))) = true) ↔
      ∀ j, j < (applicable f 0 (trials p)).length →
        (selIn p ρ i l f 0 (trials p)).getD j false =
          (selIn p ρ i l f 0 (trials p)).getD ((j / f.sustain) * f.sustain) false := by
  rw [forall_variableLists_none p hwf i l f hf _ (fun j hj => absurd hj (Nat.not_lt_zero j))]
  have hget : ∀ j, j < (applicable f 0 (trials p)).length →
      litVal ρ (((applicable f 0 (trials p)).map (fun t => enc p i l (t + 1))).getD j 0) =
        (selIn p ρ i l f 0 (trials p)).getD j false := fun j hj => by
    simp only [selIn, List.getD_eq_getElem?_getD, List.getElem?_map, List.getElem?_eq_getElem hj, Option.map_some,
      Option.getD_some, (litVal_enc p ρ i l _ f hf).1]
  simp only [List.length_map, eval_iff, eval_lit]
  refine forall_congr' fun j => imp_congr_right fun hj => ?_
  rw [hget j hj, hget _ (Nat.lt_of_le_of_lt (Nat.div_mul_le_self _ _) hj)]

/-- `Sustain`: in each group of `sustain` consecutive applicable trials every level variable repeats the first -/
theorem sustain_meaning (p : PInput) (hwf : C14.WF p.layout) (b : Backend) (ρ : Assign) :
    (applyConstraint p b .sustain).holds ρ = true ↔
      b.holds ρ = true ∧
        ∀ i f, p.layout.factors[i]? = some f → ∀ l, l < f.nlevels →
          ∀ j, j < (applicable f 0 (trials p)).length →
            (selIn p ρ i l f 0 (trials p)).getD j false =
              (selIn p ρ i l f 0 (trials p)).getD ((j / f.sustain) * f.sustain) false := by
  refine (holds_pushFormula b _ ρ).trans (and_congr_right fun _ => ?_)
  simp only [eval_and_true, List.forall_mem_flatMap, List.forall_mem_map, List.mem_range]
  rw [← forall_factorAt]
  exact forall_congr' fun i => imp_congr_right fun hi => forall_congr' fun l => imp_congr_right fun _ =>
    sustain_factor p hwf ρ i l _ (factorAt_get p i hi)

/-- the value, in the 0-based trial `t0`, of one entry of a dependent index list (`BeforeStart` is `lit 0`) -/
def depVal (p : PInput) (ρ : Assign) (t0 : Nat) : Dep → Bool
  | .var v => ρ (v + t0 * vpt p + 1)
  | .before _ => litVal ρ 0

theorem eval_derivationSimple (p : PInput) (ρ : Assign) (d : Nat) (deps : List (List Dep)) :
    (derivationSimple p d deps).eval ρ = true ↔
      ∀ t0, t0 < trials p → ρ (d + t0 * vpt p + 1) = deps.any (fun l => l.all (depVal p ρ t0)) := by
  simp only [derivationSimple, eval_and_true, List.forall_mem_map, List.mem_range, eval_iff, eval_lit, litVal_succ,
    eval_or, List.any_map]
  refine forall₂_congr fun t0 _ => iff_of_eq (congrArg (_ = deps.any ·) (funext fun l => ?_))
  simp only [Function.comp, eval_and, List.all_map]
  congr 1
  funext x
  cases x <;> simp only [Function.comp, depVal, eval_lit, litVal_succ]

/-- `Derivation` of a factor in the per-trial grid: in every trial the derived level's variable is true exactly
    when one of the index lists, shifted to the trial, is all true -/
theorem derivationSimple_meaning (p : PInput) (b : Backend) (d : Nat) (deps : List (List Nat)) (fi : Nat) (sd : Int)
    (hd : d < gridVariables p.layout) (ρ : Assign) :
    (applyConstraint p b (.derivation d (deps.map (fun l => l.map Dep.var)) fi sd)).holds ρ = true ↔
      b.holds ρ = true ∧
        ∀ t0, t0 < trials p →
          ρ (d + t0 * vpt p + 1) = deps.any (fun l => l.all (fun x => ρ (x + t0 * vpt p + 1))) := by
  dsimp only [applyConstraint]
  rw [if_pos hd]
  refine (holds_pushFormula b _ ρ).trans (and_congr_right fun _ => ?_)
  simp only [eval_derivationSimple, List.any_map, List.all_map, Function.comp_def, depVal]

end SPModel.Pipeline
