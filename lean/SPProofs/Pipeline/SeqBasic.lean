/-
  Sequences and assignments: an assignment that satisfies `Consistency` encodes a (unique) well-shaped sequence
  (`exists_seq_of_consistency`, `assignOf_inj`); for every class except `Cross`, `Meaning` over an assignment that
  encodes `s` is `SeqMeaning` over `s` (`meaning_iff_seqMeaning`).  All rests on `sel_eq`: at a `C14.Choice` the
  variable is true iff the sequence has that level there.
-/
import SPProofs.Pipeline.SeqDefs
import SPProofs.Pipeline.Ok

namespace SPModel.Pipeline
open SPModel Layout

theorem choice_of_applicable (p : PInput) (i l : Nat) (f : LFactor) (hf : p.layout.factors[i]? = some f)
    {a b : Nat} (hb : b ≤ trials p) (t : Nat) (ht : t ∈ applicable f a b) (hl : l < f.nlevels) :
    C14.Choice p.layout i l (t + 1) := by
  rw [mem_applicable] at ht
  exact ⟨f, hf, hl, Nat.succ_pos t, Nat.lt_of_lt_of_le ht.2.1 hb, ht.2.2⟩

theorem applicable_of_choice (p : PInput) (i l t : Nat) (f : LFactor) (hf : p.layout.factors[i]? = some f)
    (hc : C14.Choice p.layout i l t) : ∃ t0, t = t0 + 1 ∧ t0 ∈ applicable f 0 (trials p) := by
  obtain ⟨f', hf', _, h1, hT, ha⟩ := hc
  cases hf.symm.trans hf'
  cases t with
  | zero => exact absurd h1 (Nat.not_succ_le_zero 0)
  | succ t => exact ⟨t, rfl, (mem_applicable ..).2 ⟨Nat.zero_le _, hT, ha⟩⟩

theorem assignOf_true_iff (p : PInput) (s : TSeq) (v : Nat) :
    assignOf p s v = true ↔
      ∃ i, i < p.layout.factors.length ∧ ∃ t, t ∈ applicable (factorAt p i) 0 (trials p) ∧
        s i (t + 1) < (factorAt p i).nlevels ∧ encodeVar p.layout i (s i (t + 1)) (t + 1) = v := by
  simp only [assignOf, List.any_eq_true, List.mem_range, Bool.and_eq_true, decide_eq_true_eq]

theorem assignOf_enc (p : PInput) (hwf : C14.WF p.layout) (s : TSeq) (i l t : Nat)
    (hc : C14.Choice p.layout i l t) :
    assignOf p s (encodeVar p.layout i l t) = decide (s i t = l) := by
  rw [Bool.eq_iff_iff, assignOf_true_iff, decide_eq_true_eq]
  constructor
  · rintro ⟨i', hi', t', ht', hl', he⟩
    have c' := choice_of_applicable p i' _ _ (factorAt_get p i' hi') (Nat.le_refl _) t' ht' hl'
    obtain ⟨rfl, e2, rfl⟩ := C14.encode_injective p.layout hwf _ _ _ _ _ _ c' hc he
    exact e2
  · rintro rfl
    obtain ⟨f, hf, hl, _⟩ := id hc
    obtain ⟨t, rfl, hta⟩ := applicable_of_choice p i _ t f hf hc
    have hfa := factorAt_eq p i f hf
    exact ⟨i, (List.getElem?_eq_some_iff.1 hf).1, t, hfa ▸ hta, hfa ▸ hl, rfl⟩

theorem assignOf_outside (p : PInput) (hwf : C14.WF p.layout) (s : TSeq) (v : Nat)
    (hv : v = 0 ∨ variablesPerSample p.layout < v) : assignOf p s v = false := by
  cases h : assignOf p s v with
  | false => rfl
  | true =>
    obtain ⟨i, hi, t, ht, hl, he⟩ := (assignOf_true_iff p s v).1 h
    have hr := he ▸ C14.encode_range p.layout hwf _ _ _
      (choice_of_applicable p i _ _ (factorAt_get p i hi) (Nat.le_refl _) t ht hl)
    exact hv.elim (fun h0 => absurd hr.1 (h0 ▸ Nat.not_succ_le_zero 0)) fun h => absurd hr.2 (Nat.not_le.2 h)

theorem sel_eq (p : PInput) (hwf : C14.WF p.layout) (s : TSeq) (ρ : Assign)
    (hag : Agree (variablesPerSample p.layout) (assignOf p s) ρ) (i l t : Nat) (hc : C14.Choice p.layout i l t) :
    sel p ρ i l t = decide (s i t = l) := by
  have hr := C14.encode_range p.layout hwf _ _ _ hc
  rw [sel, ← hag _ hr.1 hr.2, assignOf_enc p hwf s i l t hc]

theorem selIn_eq (p : PInput) (hwf : C14.WF p.layout) (s : TSeq) (ρ : Assign)
    (hag : Agree (variablesPerSample p.layout) (assignOf p s) ρ)
    (i l : Nat) (f : LFactor) (hf : p.layout.factors[i]? = some f) (hl : l < f.nlevels)
    (a b : Nat) (hb : b ≤ trials p) :
    selIn p ρ i l f a b = seqIn s i l f a b :=
  List.map_congr_left fun t ht => sel_eq p hwf s ρ hag i l _ (choice_of_applicable p i l f hf hb t ht hl)

theorem assignOf_inj (p : PInput) (hwf : C14.WF p.layout) (s₁ s₂ : TSeq) (h₁ : WellShaped p s₁)
    (h : Agree (variablesPerSample p.layout) (assignOf p s₁) (assignOf p s₂)) :
    ∀ i f, p.layout.factors[i]? = some f → ∀ t ∈ applicable f 0 (trials p), s₁ i (t + 1) = s₂ i (t + 1) := by
  intro i f hf t ht
  have c := choice_of_applicable p i _ f hf (Nat.le_refl _) t ht (h₁ i f hf t ht)
  have e := (assignOf_enc p hwf s₂ _ _ _ c).symm.trans (sel_eq p hwf s₁ _ h i _ _ c)
  exact (of_decide_eq_true (e.trans (decide_eq_true rfl))).symm

theorem consistency_of_seq (p : PInput) (hwf : C14.WF p.layout) (s : TSeq) (hs : WellShaped p s) (ρ : Assign)
    (hag : Agree (variablesPerSample p.layout) (assignOf p s) ρ) : Meaning p 0 ρ .consistency := by
  intro i f hf t ht
  have e : (List.range f.nlevels).filter (fun l => sel p ρ i l (t + 1)) =
      (List.range f.nlevels).filter (fun l => decide (s i (t + 1) = l)) :=
    List.filter_congr fun l hl => sel_eq p hwf s ρ hag i l _
      (choice_of_applicable p i l f hf (Nat.le_refl _) t ht (List.mem_range.1 hl))
  rw [e, List.filter_eq_singleton List.nodup_range (List.mem_range.2 (hs i f hf t ht)) (decide_eq_true rfl)
    fun l _ h => (of_decide_eq_true h).symm]
  rfl

theorem find_of_filter_one (n : Nat) (q : Nat → Bool) (h : ((List.range n).filter q).length = 1)
    (l : Nat) (hl : l < n) :
    q l = decide (((List.range n).find? q).getD 0 = l) := by
  obtain ⟨a, ha⟩ := List.length_eq_one_iff.1 h
  have hm : l ∈ (List.range n).filter q ↔ q l = true := by
    rw [List.mem_filter, and_iff_right (List.mem_range.2 hl)]
  rw [ha, List.mem_singleton] at hm
  rw [← List.head?_filter, ha, Bool.eq_iff_iff, ← hm, decide_eq_true_eq]
  exact eq_comm

theorem find_lt (n : Nat) (hn : 0 < n) (q : Nat → Bool) : ((List.range n).find? q).getD 0 < n := by
  cases h : (List.range n).find? q with
  | none => exact hn
  | some a => simpa using List.mem_of_find?_eq_some h

theorem exists_seq_of_consistency (p : PInput) (hwf : C14.WF p.layout) (ρ : Assign)
    (hc : Meaning p 0 ρ .consistency) :
    ∃ s, WellShaped p s ∧ Agree (variablesPerSample p.layout) (assignOf p s) ρ := by
  -- the sequence: in every trial, the first level whose variable is true
  let s : TSeq := fun i t => ((List.range (factorAt p i).nlevels).find? (fun l => sel p ρ i l t)).getD 0
  refine ⟨s, fun i f hf t _ => ?_, fun v h1 h2 => ?_⟩
  · rw [← factorAt_eq p i f hf]
    exact find_lt _ ((factorAt_eq p i f hf) ▸ (hwf f (List.mem_of_getElem? hf)).2.2.1) _
  · obtain ⟨i, l, t, c, rfl⟩ := C14.encode_surjective p.layout hwf v ⟨h1, h2⟩
    rw [assignOf_enc p hwf s i l t c]
    obtain ⟨f, hf, hl, _⟩ := id c
    obtain ⟨t, rfl, hta⟩ := applicable_of_choice p i l t f hf c
    have hfa := factorAt_eq p i f hf
    exact (find_of_filter_one (factorAt p i).nlevels (fun l => sel p ρ i l (t + 1)) (hfa ▸ hc i f hf t hta) l
      (hfa ▸ hl)).symm

namespace SeqAux

theorem exists_seq_of_consistency (p : PInput) (hwf : C14.WF p.layout) (ρ : Assign)
    (hc : Meaning p 0 ρ .consistency) :
    ∃ s, WellShaped p s ∧ Agree (variablesPerSample p.layout) (assignOf p s) ρ :=
  Pipeline.exists_seq_of_consistency p hwf ρ hc

end SeqAux

/-- `hlev` is `levelOk` of the four run-length classes -/
theorem forall_selIn_ranges_iff (p : PInput) (hwf : C14.WF p.layout) (s : TSeq) (ρ : Assign)
    (hag : Agree (variablesPerSample p.layout) (assignOf p s) ρ) (i l : Nat) (within : Option (Nat × Nat))
    (hi : i < p.layout.factors.length)
    (hlev : (decide (l < (factorAt p i).nlevels) && (ranges p within).all fun r => decide (r.2 ≤ trials p)) = true)
    (P : List Bool → Prop) :
    (∀ r ∈ ranges p within, P (selIn p ρ i l (factorAt p i) r.1 r.2)) ↔
      ∀ r ∈ ranges p within, P (seqIn s i l (factorAt p i) r.1 r.2) :=
  have hlev := Bool.and_eq_true_iff.1 hlev
  forall₂_congr fun r hrm => iff_of_eq <| congrArg P <|
    selIn_eq p hwf s ρ hag i l _ (factorAt_get p i hi) (of_decide_eq_true hlev.1) r.1 r.2
      (of_decide_eq_true (List.all_eq_true.1 hlev.2 r hrm))

theorem meaning_iff_seqMeaning (p : PInput) (hwf : C14.WF p.layout) (hseq : seqOk p = true) (s : TSeq)
    (hs : WellShaped p s) (ρ : Assign) (hag : Agree (variablesPerSample p.layout) (assignOf p s) ρ)
    (fr : Nat) (c : PConstraint) (hc : c ∈ p.constraints) (hok : ConstraintOk p c)
    (hnc : c ≠ .cross) :
    Meaning p fr ρ c ↔ SeqMeaning p s c := by
  obtain ⟨hder, hlevs, _⟩ := seqOk_spec p hseq
  have hlev := hlevs c hc
  have choice : ∀ i l t, i < p.layout.factors.length → l < (factorAt p i).nlevels →
      t ∈ applicable (factorAt p i) 0 (trials p) → sel p ρ i l (t + 1) = decide (s i (t + 1) = l) :=
    fun i l t hi hl ht => sel_eq p hwf s ρ hag i l _
      (choice_of_applicable p i l _ (factorAt_get p i hi) (Nat.le_refl _) t ht hl)
  cases c with
  | noop => exact Iff.rfl
  | consistency => exact ⟨fun _ => trivial, fun _ => consistency_of_seq p hwf s hs ρ hag⟩
  | cross => exact absurd rfl hnc
  | sustain =>
    exact forall₂_congr fun i f => forall₃_congr fun hf l hl => by
      rw [selIn_eq p hwf s ρ hag i l f hf hl 0 (trials p) (Nat.le_refl _)]
  | exclude i l =>
    exact forall₂_congr fun t ht => by rw [choice i l t hok (of_decide_eq_true hlev) ht, decide_eq_false_iff_not]
  | pin idx i l within sn =>
    have hlev : (_ && _) = true := hlev
    simp only [Bool.and_eq_true, decide_eq_true_eq, List.all_eq_true] at hlev
    refine and_congr_right fun _ => forall₂_congr fun t ht => ?_
    rw [choice i l t hok hlev.1 ((mem_applicable ..).2 ⟨Nat.zero_le _, hlev.2 t ht⟩), decide_eq_true_eq]
  | atMost k i l within =>
    exact forall_selIn_ranges_iff p hwf s ρ hag i l within hok.1 hlev (∀ m ∈ Compile.runs ·, m ≤ k)
  | atLeast k i l within =>
    exact forall_selIn_ranges_iff p hwf s ρ hag i l within hok.2.1 hlev (∀ m ∈ Compile.runs ·, k ≤ m)
  | exactlyInARow k i l within =>
    exact forall_selIn_ranges_iff p hwf s ρ hag i l within hok.2.1 hlev (∀ m ∈ Compile.runs ·, m = k)
  | exactlyK k i l within =>
    exact forall_selIn_ranges_iff p hwf s ρ hag i l within hok.2.1 hlev (fun bs => (bs.filter id).length = k)
  | sequential i pre =>
    have hf := factorAt_get p i hok
    refine forall₂_congr fun j hj => ?_
    have hta := (mem_applicable_simple hwf hf ((Bool.not_eq_true' _).mp hlev) _ _).2 hj
    have hlt := hs i _ hf _ hta
    -- all levels' variables are as `decide (l = j % n)` says iff the level the sequence has is `j % n`
    refine ⟨fun h => ?_, fun h l hl => ?_⟩
    · exact of_decide_eq_true ((h _ hlt).symm.trans ((choice i _ _ hok hlt hta).trans (decide_eq_true rfl)))
    · rw [choice i l _ hok hl hta, h]
      exact decide_eq_decide.2 eq_comm
  | derivation d deps fi sd =>
    show _ ↔ Meaning p 0 (assignOf p s) (.derivation d deps fi sd)
    rw [meaning_derivation, meaning_derivation]
    exact forall₂_congr fun g hg => by rw [eval_congr_agree hag g (hder _ hc g hg)]

end SPModel.Pipeline
