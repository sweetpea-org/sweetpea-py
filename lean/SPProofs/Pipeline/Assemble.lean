/-
  What the backend `buildBackend p` of a block means for an assignment: `Meaning p fr ρ c` is the meaning of `c` when
  its `apply` runs at fresh-variable counter `fr` (only `Cross` depends on the counter: it names its state variables
  from it), `MeaningAll` that of a constraint list.  `applyConstraint_meaning` collects the per-class theorems; every
  `apply` is `Chain.Steady`, so the meanings compose over the list (`buildBackend_meaning`).
-/
import SPProofs.Pipeline.MeaningRuns
import SPProofs.Pipeline.MeaningBasic
import SPProofs.Pipeline.MeaningCross
import SPProofs.Logic.Tseitin
import SPProofs.Pipeline.Chain

namespace SPModel.Pipeline
open SPModel Layout

/-- `Chain.after (applyConstraint p)`; `crossFreshAfter` below is `Chain.after (crossStep p)` -/
def freshAfter (p : PInput) (fr : Nat) (c : PConstraint) : Nat :=
  (applyConstraint p { fresh := fr, cnfs := [], reqs := [] } c).fresh

def crossFreshAfter (p : PInput) (fr : Nat) (c : PCrossing) : Nat :=
  (crossStep p { fresh := fr, cnfs := [], reqs := [] } c).fresh

/-- meaning of one crossing whose state variables start at `fr` -/
def CrossMeaning (p : PInput) (fr : Nat) (ρ : Assign) (c : PCrossing) : Prop :=
  (∀ ti ci, ti < trials p - c.preamble → ci < c.combos.length →
      ρ (fr + ti * c.combos.length + ci) = comboSel p ρ c ci (c.preamble + 1 + ti)) ∧
  (∀ ci, ci < c.combos.length → ∀ j, j * (c.size * c.weight) < trials p - c.preamble →
      let cnt := chunkCount (trials p - c.preamble) (c.size * c.weight) j
        (fun ti => comboSel p ρ c ci (c.preamble + 1 + ti))
      if (j + 1) * (c.size * c.weight) ≤ trials p - c.preamble
      then cnt = c.weights.getD ci 0 * c.weight
      else cnt ≤ c.weights.getD ci 0 * c.weight)

def CrossMeaningAll (p : PInput) : Nat → List PCrossing → Assign → Prop
  | _, [], _ => True
  | fr, c :: cs, ρ => CrossMeaning p fr ρ c ∧ CrossMeaningAll p (crossFreshAfter p fr c) cs ρ

/-- all entries of the dependent-index lists are plain variables (no `BeforeStart`) -/
def plainDeps (deps : List (List Dep)) : Option (List (List Nat)) :=
  deps.mapM (fun l => l.mapM (fun x => match x with | .var v => some v | .before _ => none))

def Meaning (p : PInput) (fr : Nat) (ρ : Assign) : PConstraint → Prop
  | .noop => True
  | .consistency =>
    ∀ i f, p.layout.factors[i]? = some f → ∀ t ∈ applicable f 0 (trials p),
      ((List.range f.nlevels).filter (fun l => sel p ρ i l (t + 1))).length = 1
  | .cross => CrossMeaningAll p fr p.crossings ρ
  | .sustain =>
    ∀ i f, p.layout.factors[i]? = some f → ∀ l, l < f.nlevels →
      ∀ j, j < (applicable f 0 (trials p)).length →
        (selIn p ρ i l f 0 (trials p)).getD j false =
          (selIn p ρ i l f 0 (trials p)).getD ((j / f.sustain) * f.sustain) false
  | .exclude i l => ∀ t ∈ applicable (factorAt p i) 0 (trials p), sel p ρ i l (t + 1) = false
  | .pin idx i l within s =>
    trialNumbers p idx within s ≠ [] ∧ ∀ t ∈ trialNumbers p idx within s, sel p ρ i l (t + 1) = true
  | .atMost k i l within =>
    ∀ r ∈ ranges p within, ∀ m ∈ Compile.runs (selIn p ρ i l (factorAt p i) r.1 r.2), m ≤ k
  | .atLeast k i l within =>
    ∀ r ∈ ranges p within, ∀ m ∈ Compile.runs (selIn p ρ i l (factorAt p i) r.1 r.2), k ≤ m
  | .exactlyInARow k i l within =>
    ∀ r ∈ ranges p within, ∀ m ∈ Compile.runs (selIn p ρ i l (factorAt p i) r.1 r.2), m = k
  | .exactlyK k i l within =>
    ∀ r ∈ ranges p within, ((selIn p ρ i l (factorAt p i) r.1 r.2).filter id).length = k
  | .sequential i pre =>
    ∀ j, pre + j * (factorAt p i).sustain < trials p → ∀ l, l < (factorAt p i).nlevels →
      sel p ρ i l (pre + j * (factorAt p i).sustain + 1) = decide (l = j % (factorAt p i).nlevels)
  | .derivation d deps fi sd =>
    if d < gridVariables p.layout then
      match plainDeps deps with
      | some ds => ∀ t0, t0 < trials p →
          ρ (d + t0 * vpt p + 1) = ds.any (fun l => l.all (fun x => ρ (x + t0 * vpt p + 1)))
      | none => (derivationSimple p d deps).eval ρ = true
    else
      -- over a complex window: the formula the model builds (compared with the implementation by correspondence
      -- I8); its meaning in terms of windows is not stated
      match derivationComplex p d deps fi sd with
      | some g => g.eval ρ = true
      | none => True

def MeaningAll (p : PInput) : Nat → List PConstraint → Assign → Prop
  | _, [], _ => True
  | fr, c :: cs, ρ => Meaning p fr ρ c ∧ MeaningAll p (freshAfter p fr c) cs ρ

/-- the side conditions of the per-class theorems, which block construction guarantees: factors exist, `k > 0`,
    block-scoped geometries have a positive length, every crossing has a trial after its preamble and a positive
    chunk length -/
def ConstraintOk (p : PInput) : PConstraint → Prop
  | .noop | .consistency | .sustain => True
  | .cross => ∀ c ∈ p.crossings, c.preamble < trials p ∧ 0 < c.size * c.weight ∧
      ∀ i ∈ c.factors, i < p.layout.factors.length
  | .exclude i _ => i < p.layout.factors.length
  | .pin _ i _ _ _ => i < p.layout.factors.length
  | .atMost _ i _ within => i < p.layout.factors.length ∧ WithinOk within
  | .atLeast k i _ within => 0 < k ∧ i < p.layout.factors.length ∧ WithinOk within
  | .exactlyInARow k i _ within => 0 < k ∧ i < p.layout.factors.length ∧ WithinOk within
  | .exactlyK k i _ within => 0 < k ∧ i < p.layout.factors.length ∧ WithinOk within
  | .sequential i _ => i < p.layout.factors.length
  | .derivation _ _ _ _ => True

theorem crossMeaningAll_eq (p : PInput) (ρ : Assign) (xs : List PCrossing) (fr : Nat) :
    CrossMeaningAll p fr xs ρ = Chain.All (crossFreshAfter p) (CrossMeaning p) fr ρ xs := by
  induction xs generalizing fr with
  | nil => rfl
  | cons c xs ih => exact congrArg (CrossMeaning p fr ρ c ∧ ·) (ih _)

theorem meaningAll_eq (p : PInput) (ρ : Assign) (cs : List PConstraint) (fr : Nat) :
    MeaningAll p fr cs ρ = Chain.All (freshAfter p) (Meaning p) fr ρ cs := by
  induction cs generalizing fr with
  | nil => rfl
  | cons c cs ih => exact congrArg (Meaning p fr ρ c ∧ ·) (ih _)

theorem applyConstraint_derivation (p : PInput) (b : Backend) (d : Nat) (deps : List (List Dep)) (fi : Nat) (sd : Int) :
    applyConstraint p b (.derivation d deps fi sd) =
      match derivationFormula p (.derivation d deps fi sd) with
      | some g => pushFormula b g
      | none => b.fail .runtimeError := by
  dsimp only [applyConstraint, derivationFormula]
  split <;> rfl

theorem plainDeps_eq_some (deps : List (List Dep)) (ds : List (List Nat)) (h : plainDeps deps = some ds) :
    deps = ds.map (fun l => l.map Dep.var) :=
  List.mapM_some_inv _ _ (List.mapM_some_inv _ _ fun x y hxy => by
    cases x with
    | var v => exact congrArg Dep.var (Option.some.inj hxy)
    | before _ => cases hxy) deps ds h

/-- every branch of `Meaning` for a derivation says that the formula its `apply` pushes is true (the branch for
    plain index lists spells `eval_derivationSimple` out) -/
theorem meaning_derivation (p : PInput) (fr : Nat) (ρ : Assign) (d : Nat) (deps : List (List Dep)) (fi : Nat) (sd : Int) :
    Meaning p fr ρ (.derivation d deps fi sd) ↔
      ∀ g, derivationFormula p (.derivation d deps fi sd) = some g → g.eval ρ = true := by
  dsimp only [Meaning, derivationFormula]
  by_cases hd : d < gridVariables p.layout
  · simp only [if_pos hd, Option.some.injEq, forall_eq', eval_derivationSimple]
    cases hp : plainDeps deps with
    | some ds =>
      cases plainDeps_eq_some deps ds hp
      simp only [List.any_map, Function.comp_def, List.all_map, depVal]
    | none => rfl
  · cases hg : derivationComplex p d deps fi sd <;>
      simp only [if_neg hd, Option.some.injEq, forall_eq', reduceCtorEq, false_imp_iff, implies_true]

theorem crossStep_fresh_ge (p : PInput) (c : PCrossing) (b : Backend) :
    b.fresh + (trials p - c.preamble) * c.combos.length ≤ (crossStep p b c).fresh := by
  unfold crossStep
  by_cases h : trials p ≤ c.preamble
  · rw [if_pos h, fresh_fail, Nat.sub_eq_zero_of_le h, Nat.zero_mul]
    exact Nat.le_refl _
  · rw [if_neg h]
    dsimp only
    refine Nat.le_trans (Nat.le_of_eq ?_) (toCnfTseitin_next_le _ _)
    rw [List.length_map, List.length_range]

namespace Asm

theorem foldl_fresh_keep {α : Type} (step : Backend → α → Backend)
    (hstep : ∀ b x, (step b x).fresh = b.fresh) (l : List α) (b : Backend) :
    (l.foldl step b).fresh = b.fresh := by
  induction l generalizing b with
  | nil => rfl
  | cons x xs ih => exact (ih _).trans (hstep _ x)

end Asm

namespace Chain

theorem Steady.push (f : Formula) : Steady (pushFormula · f) :=
  ⟨fun _ => toCnfTseitin_next_le _ _, fun _ _ e => congrArg (fun n => (toCnfTseitin f n).next) e⟩

theorem Steady.rowFold (g : List Int → List Formula) (l : List (List Int)) (acc : List Formula) :
    Steady (fun b => (l.foldl (fun (acc : List Formula × Backend) vars =>
        let imps := acc.1 ++ g vars
        (imps, pushFormula acc.2 (.and imps))) (acc, b)).2) := by
  induction l generalizing acc with
  | nil => exact .of_keep fun _ => rfl
  | cons x xs ih => exact (Steady.push (.and (acc ++ g x))).comp (ih (acc ++ g x))

theorem Steady.crossStep (p : PInput) (c : PCrossing) : Steady (crossStep p · c) := by
  refine ⟨fun b => Nat.le_trans (Nat.le_add_right _ _) (crossStep_fresh_ge p c b), fun b₁ b₂ e => ?_⟩
  unfold Pipeline.crossStep
  by_cases h : trials p ≤ c.preamble
  · rw [if_pos h, if_pos h, fresh_fail, fresh_fail, e]
  · rw [if_neg h, if_neg h, e]

theorem Steady.applyConstraint (p : PInput) (c : PConstraint) : Steady (applyConstraint p · c) := by
  cases c with
  | noop | consistency | atMost => exact .of_keep fun _ => rfl
  | cross => exact .foldl _ (Steady.crossStep p) _
  | sustain | atLeast | sequential => exact .push _
  | exclude f l =>
    refine .of_keep (Asm.foldl_fresh_keep _ ?_ _)
    exact fun _ _ => rfl
  | pin idx f l within s =>
    dsimp only [Pipeline.applyConstraint]
    cases trialNumbers p idx within s with
    | nil => exact .of_keep fun _ => rfl
    | cons t ts =>
      refine .of_keep (Asm.foldl_fresh_keep _ ?_ _)
      exact fun _ _ => rfl
  | exactlyInARow k f l within => exact .rowFold _ _ _
  | exactlyK k f l within =>
    refine .of_keep (Asm.foldl_fresh_keep _ ?_ _)
    exact fun _ _ => by split <;> rfl
  | derivation d deps f sd =>
    simp only [applyConstraint_derivation]
    split
    · exact .push _
    · exact .of_keep (fresh_fail · _)

end Chain

theorem freshAfter_cross (p : PInput) (fr : Nat) :
    freshAfter p fr .cross = Chain.stop (crossFreshAfter p) fr p.crossings :=
  Chain.fresh_foldl (crossStep p) (Chain.Steady.crossStep p) p.crossings _

theorem applyConstraint_meaning (p : PInput) (hwf : C14.WF p.layout) (b : Backend) (hfresh : 0 < b.fresh)
    (c : PConstraint) (hok : ConstraintOk p c) (ρ : Assign) :
    (applyConstraint p b c).holds ρ = true ↔ b.holds ρ = true ∧ Meaning p b.fresh ρ c := by
  cases c with
  | noop => exact (and_iff_left trivial).symm
  | consistency => exact consistency_meaning p hwf b ρ
  | cross =>
    show _ ↔ _ ∧ CrossMeaningAll p b.fresh p.crossings ρ
    rw [crossMeaningAll_eq]
    exact Chain.holds_foldl (crossStep p) (Chain.Steady.crossStep p) ρ _ b hfresh fun c hc b hb =>
      crossStep_meaning p b c (hok c hc).1 (hok c hc).2.1 (hok c hc).2.2 hb ρ
  | sustain => exact sustain_meaning p hwf b ρ
  | exclude i l => exact exclude_meaning p hwf b i l _ (factorAt_get p i hok) ρ
  | pin idx i l within s => exact pin_meaning p b idx i l _ (factorAt_get p i hok) within s ρ
  | atMost k i l within =>
    exact atMost_meaning p hwf b k i l _ (factorAt_get p i hok.1) within hok.2 ρ
  | atLeast k i l within =>
    exact atLeast_meaning p hwf b k i l hok.1 _ (factorAt_get p i hok.2.1) within hok.2.2 ρ
  | exactlyInARow k i l within =>
    exact exactlyInARow_meaning p hwf b k i l hok.1 _ (factorAt_get p i hok.2.1) within hok.2.2 ρ
  | exactlyK k i l within =>
    exact exactlyK_meaning p hwf b k i l hok.1 _ (factorAt_get p i hok.2.1) within hok.2.2 ρ
  | sequential i pre =>
    have hf := factorAt_get p i hok
    obtain ⟨_, hs, hl, _⟩ := hwf _ (List.mem_of_getElem? hf)
    exact sequential_meaning p b i _ hf hs hl pre ρ
  | derivation d deps fi sd =>
    rw [meaning_derivation, applyConstraint_derivation]
    cases derivationFormula p (.derivation d deps fi sd) with
    | some g => simpa using holds_pushFormula b g ρ
    | none => simp [holds_fail]

theorem buildBackend_meaning (p : PInput) (hwf : C14.WF p.layout) (hok : ∀ c ∈ p.constraints, ConstraintOk p c)
    (ρ : Assign) :
    (buildBackend p).holds ρ = true ↔ MeaningAll p (variablesPerSample p.layout + 1) p.constraints ρ := by
  have h0 : ({ fresh := variablesPerSample p.layout + 1, cnfs := [], reqs := [] } : Backend).holds ρ = true := by
    rfl
  rw [meaningAll_eq]
  exact (Chain.holds_foldl (applyConstraint p) (Chain.Steady.applyConstraint p) ρ _ _ (Nat.succ_pos _)
    fun c hc b hb => applyConstraint_meaning p hwf b hb c (hok c hc) ρ).trans (and_iff_right h0)

end SPModel.Pipeline
