/-
  What `Exclude`, `Pin`, `AtMostKInARow`, `AtLeastKInARow`, `ExactlyKInARow` and `ExactlyK` mean for an assignment, per
  block-scoped (`within_block`) range; `Compile.runs` are the lengths of the maximal runs of `true`.
-/
import SPProofs.Pipeline.Sel
import SPProofs.Properties.C01

namespace SPModel.Pipeline
open SPModel Layout

theorem eval_and_iff (ρ : Assign) (fs : List Formula) :
    Formula.eval ρ (.and fs) = true ↔ ∀ f ∈ fs, f.eval ρ = true :=
  SPModel.eval_and_iff ρ fs

theorem raw_holds (ρ : Assign) (lits : List Int) :
    (CnfItem.raw lits).holds ρ = true ↔ ∀ v ∈ lits, litVal ρ v = true := by
  simp only [CnfItem.holds, List.all_eq_true]

theorem raw_contradiction (ρ : Assign) : (CnfItem.raw [1, -1]).holds ρ = false := by
  simp only [CnfItem.holds, List.all_cons, List.all_nil, litVal]
  cases h : ρ 1 <;> simp [h]

theorem holds_foldl_raw {α : Type} (g : α → List Int) (xs : List α) (b : Backend) (ρ : Assign) :
    (xs.foldl (fun b x => { b with cnfs := b.cnfs ++ [CnfItem.raw (g x)] }) b).holds ρ = true ↔
      b.holds ρ = true ∧ ∀ x ∈ xs, ∀ v ∈ g x, litVal ρ v = true :=
  holds_foldl _ _ (fun b x => by rw [holds_addCnf1, raw_holds]) xs b

theorem holds_foldl_exactlyK (k : Nat) (hk : 0 < k) (xs : List (List Int)) (b : Backend) (ρ : Assign) :
    (xs.foldl (fun b vars =>
      match Compile.exactlyK k vars with
      | .request r => { b with reqs := b.reqs ++ [r] }
      | .contradiction => { b with cnfs := b.cnfs ++ [CnfItem.raw [1, -1]] }) b).holds ρ = true ↔
      b.holds ρ = true ∧ ∀ vars ∈ xs, ((C01.bits ρ vars).filter id).length = k := by
  refine holds_foldl _ _ (fun b vars => ?_) xs b
  rw [← C01.exactlyK_iff k hk vars ρ]
  cases Compile.exactlyK k vars with
  | request r => exact (holds_addReqs b [r] ρ).trans (by rw [List.forall_mem_singleton])
  | contradiction => simp [holds_addCnf1, raw_contradiction]

/-- the fold of `ExactlyKInARow.apply`: the implications accumulate over the ranges, and after each range the
    conjunction of all so far is pushed -/
theorem holds_foldl_exactRow (k : Nat) (xs : List (List Int)) (acc : List Formula) (b : Backend) (ρ : Assign) :
    ((xs.foldl (fun (acc : List Formula × Backend) vars =>
        let imps := acc.1 ++ Compile.exactlyInARowFormulas k vars
        (imps, pushFormula acc.2 (.and imps))) (acc, b)).2).holds ρ = true ↔
      b.holds ρ = true ∧ (xs ≠ [] → ∀ f ∈ acc, f.eval ρ = true) ∧
        ∀ vars ∈ xs, ∀ f ∈ Compile.exactlyInARowFormulas k vars, f.eval ρ = true := by
  induction xs generalizing acc b with
  | nil => exact (and_iff_left ⟨fun h => absurd rfl h, fun _ h => nomatch h⟩).symm
  | cons x xs ih =>
    rw [List.foldl_cons, ih, holds_pushFormula, eval_and_iff, List.forall_mem_append, List.forall_mem_cons]
    constructor
    · rintro ⟨⟨hb, ha, hx⟩, -, hr⟩
      exact ⟨hb, fun _ => ha, hx, hr⟩
    · rintro ⟨hb, ha, hx, hr⟩
      exact ⟨⟨hb, ha (List.cons_ne_nil _ _), hx⟩, fun _ => ⟨ha (List.cons_ne_nil _ _), hx⟩, hr⟩

theorem bits_enc (p : PInput) (ρ : Assign) (i l : Nat) (f : LFactor) (hf : p.layout.factors[i]? = some f)
    (a b : Nat) :
    C01.bits ρ ((applicable f a b).map (fun t => enc p i l (t + 1))) = selIn p ρ i l f a b := by
  unfold C01.bits selIn
  rw [List.map_map]
  apply List.map_congr_left
  intro t _
  exact (litVal_enc p ρ i l (t + 1) f hf).1

theorem forall_variableLists (p : PInput) (hwf : C14.WF p.layout) (ρ : Assign) (i l : Nat) (f : LFactor)
    (hf : p.layout.factors[i]? = some f) (within : Option (Nat × Nat)) (hw : WithinOk within)
    (Q : List Bool → Prop) :
    (∀ vars ∈ variableLists p i l within, Q (C01.bits ρ vars)) ↔
      ∀ r ∈ ranges p within, Q (selIn p ρ i l f r.1 r.2) := by
  rw [variableLists_eq p hwf i l f hf within hw, List.forall_mem_map]
  simp only [bits_enc p ρ i l f hf]

theorem exclude_meaning (p : PInput) (hwf : C14.WF p.layout) (b : Backend) (i l : Nat) (f : LFactor)
    (hf : p.layout.factors[i]? = some f) (ρ : Assign) :
    (applyConstraint p b (.exclude i l)).holds ρ = true ↔
      b.holds ρ = true ∧ ∀ t ∈ applicable f 0 (trials p), sel p ρ i l (t + 1) = false := by
  refine (holds_foldl_raw (fun vars : List Int => vars.map (fun v => -v)) _ b ρ).trans (and_congr_right fun _ => ?_)
  rw [forall_variableLists_none p hwf i l f hf _ nofun]
  simp only [List.forall_mem_map, (litVal_enc p ρ i l _ f hf).2, Bool.not_eq_true']

theorem pin_meaning (p : PInput) (b : Backend) (idx : Int) (i l : Nat) (f : LFactor)
    (hf : p.layout.factors[i]? = some f) (within : Option (Nat × Nat)) (s : Nat) (ρ : Assign) :
    (applyConstraint p b (.pin idx i l within s)).holds ρ = true ↔
      b.holds ρ = true ∧ trialNumbers p idx within s ≠ [] ∧
        ∀ t ∈ trialNumbers p idx within s, sel p ρ i l (t + 1) = true := by
  dsimp only [applyConstraint]
  cases trialNumbers p idx within s with
  | nil => simp [holds_addCnf1, raw_contradiction]
  | cons t ts =>
    refine (holds_foldl_raw (fun t => [enc p i l (t + 1)]) (t :: ts) b ρ).trans (and_congr_right fun _ => ?_)
    simp only [List.forall_mem_singleton, (litVal_enc p ρ i l _ f hf).1, ne_eq, reduceCtorEq,
      not_false_eq_true, true_and]

theorem atMost_meaning (p : PInput) (hwf : C14.WF p.layout) (b : Backend) (k i l : Nat) (f : LFactor)
    (hf : p.layout.factors[i]? = some f) (within : Option (Nat × Nat)) (hw : WithinOk within) (ρ : Assign) :
    (applyConstraint p b (.atMost k i l within)).holds ρ = true ↔
      b.holds ρ = true ∧ ∀ r ∈ ranges p within, ∀ m ∈ Compile.runs (selIn p ρ i l f r.1 r.2), m ≤ k := by
  refine (holds_addReqs b _ ρ).trans (and_congr_right fun _ => ?_)
  simp only [List.forall_mem_flatMap, C01.atMost_iff]
  exact forall_variableLists p hwf ρ i l f hf within hw (∀ m ∈ Compile.runs ·, m ≤ k)

theorem atLeast_meaning (p : PInput) (hwf : C14.WF p.layout) (b : Backend) (k i l : Nat) (hk : 0 < k) (f : LFactor)
    (hf : p.layout.factors[i]? = some f) (within : Option (Nat × Nat)) (hw : WithinOk within) (ρ : Assign) :
    (applyConstraint p b (.atLeast k i l within)).holds ρ = true ↔
      b.holds ρ = true ∧ ∀ r ∈ ranges p within, ∀ m ∈ Compile.runs (selIn p ρ i l f r.1 r.2), k ≤ m := by
  refine (holds_pushFormula b _ ρ).trans (and_congr_right fun _ => ?_)
  simp only [eval_and_iff, List.forall_mem_flatMap, C01.atLeast_iff k hk]
  exact forall_variableLists p hwf ρ i l f hf within hw (∀ m ∈ Compile.runs ·, k ≤ m)

theorem exactlyInARow_meaning (p : PInput) (hwf : C14.WF p.layout) (b : Backend) (k i l : Nat) (hk : 0 < k) (f : LFactor)
    (hf : p.layout.factors[i]? = some f) (within : Option (Nat × Nat)) (hw : WithinOk within) (ρ : Assign) :
    (applyConstraint p b (.exactlyInARow k i l within)).holds ρ = true ↔
      b.holds ρ = true ∧ ∀ r ∈ ranges p within, ∀ m ∈ Compile.runs (selIn p ρ i l f r.1 r.2), m = k := by
  refine (holds_foldl_exactRow k _ [] b ρ).trans (and_congr_right fun _ => ?_)
  simp only [List.not_mem_nil, false_imp_iff, implies_true, true_and, C01.exactlyInARow_iff k hk]
  exact forall_variableLists p hwf ρ i l f hf within hw (∀ m ∈ Compile.runs ·, m = k)

theorem exactlyK_meaning (p : PInput) (hwf : C14.WF p.layout) (b : Backend) (k i l : Nat) (hk : 0 < k) (f : LFactor)
    (hf : p.layout.factors[i]? = some f) (within : Option (Nat × Nat)) (hw : WithinOk within) (ρ : Assign) :
    (applyConstraint p b (.exactlyK k i l within)).holds ρ = true ↔
      b.holds ρ = true ∧ ∀ r ∈ ranges p within, ((selIn p ρ i l f r.1 r.2).filter id).length = k := by
  exact (holds_foldl_exactlyK k hk _ b ρ).trans
    (and_congr_right fun _ => forall_variableLists p hwf ρ i l f hf within hw (fun bs => (bs.filter id).length = k))

end SPModel.Pipeline
