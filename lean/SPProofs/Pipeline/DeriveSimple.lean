/-
  `Derive.generate` (model of `DerivationProcessor.generate_derivations`) read at the level of trial sequences, for
  derived factors in the per-trial grid (`GridFactor`): `derivation_grid_seq`, `grid_factor_function`, `grid_factor_iff`.
-/
import SPProofs.Pipeline.SeqBasic
import SPModel.Derive

namespace SPModel.Derive
open SPModel Layout Pipeline

/-- `tup` has one entry per position of `ps`, each among the options `opts` offers there -/
def Fits {α : Type} (opts : α → List Entry) : List α → List Entry → Prop
  | [], [] => True
  | p :: ps, e :: es => e ∈ opts p ∧ Fits opts ps es
  | [], _ :: _ => False
  | _ :: _, [] => False

theorem mem_product {α : Type} (opts : α → List Entry) (ps : List α) (tup : List Entry) :
    tup ∈ product (ps.map opts) ↔ Fits opts ps tup := by
  fun_induction Fits opts ps tup with
  | case1 | case3 | case4 => simp [product]
  | case2 q qs e es ih =>
    simp only [List.map_cons, product, List.mem_flatMap, List.mem_map]
    constructor
    · rintro ⟨e', he', t, ht, heq⟩
      cases heq
      exact ⟨he', ih.1 ht⟩
    · rintro ⟨he, hes⟩
      exact ⟨e, he, es, ih.2 hes, rfl⟩

theorem zip_all_iff {α : Type} (opts : α → List Entry) (chk : α → Entry → Bool) (act : α → Entry)
    (ps : List α) (tup : List Entry) (hfit : Fits opts ps tup)
    (hchk : ∀ pos ∈ ps, ∀ e ∈ opts pos, (chk pos e = true ↔ e = act pos)) :
    (ps.zip tup).all (fun pe => chk pe.1 pe.2) = true ↔ tup = ps.map act := by
  fun_induction Fits opts ps tup with
  | case1 => simp
  | case2 q qs e es ih =>
    simp only [List.zip_cons_cons, List.all_cons, Bool.and_eq_true, List.map_cons, List.cons.injEq]
    rw [ih hfit.2 fun pos hp => hchk pos (List.mem_cons_of_mem _ hp), hchk q List.mem_cons_self e hfit.1]
  | case3 | case4 => exact hfit.elim

theorem fits_map_act {α : Type} (opts : α → List Entry) (act : α → Entry) (ps : List α)
    (h : ∀ pos ∈ ps, act pos ∈ opts pos) : Fits opts ps (ps.map act) := by
  induction ps with
  | nil => simp [Fits]
  | cons q qs ih =>
    exact ⟨h q List.mem_cons_self, ih (fun pos hp => h pos (List.mem_cons_of_mem _ hp))⟩

theorem lt_nlevels_grid (p : PInput) (hwf : C14.WF p.layout) (s : TSeq) (hs : WellShaped p s) (i : Nat) (f : LFactor)
    (hf : p.layout.factors[i]? = some f) (hc : f.complex = false) (t0 : Nat) (ht : t0 < trials p) :
    s i (t0 + 1) < f.nlevels :=
  hs i f hf t0 ((mem_applicable_simple hwf hf hc _ _).2 ht)

theorem assign_grid_var (p : PInput) (hwf : C14.WF p.layout) (s : TSeq)
    (i l : Nat) (f : LFactor) (hf : p.layout.factors[i]? = some f) (hc : f.complex = false) (hl : l < f.nlevels)
    (t0 : Nat) (ht : t0 < trials p) :
    assignOf p s (firstVariableForLevel p.layout i l + t0 * vpt p + 1) = decide (s i (t0 + 1) = l) := by
  have hc' := choice_of_applicable p i l f hf (Nat.le_refl _) t0 ((mem_applicable_simple hwf hf hc _ _).2 ht) hl
  rw [← assignOf_enc p hwf s i l _ hc', encodeVar_eq _ _ _ _ f hf,
    ← firstVariableForLevel_eq _ _ _ f hf, C14.previousCount_simple hwf hf hc, rowWidth, hc,
    if_neg Bool.false_ne_true, Nat.add_sub_cancel, Nat.mul_comm]
  rfl

theorem firstVariableForLevel_lt_grid (b : LBlock) (i l : Nat) (f : LFactor) (hf : b.factors[i]? = some f)
    (hc : f.complex = false) (hl : l < f.nlevels) (htr : 0 < b.trials) :
    firstVariableForLevel b i l < gridVariables b := by
  rw [firstVariableForLevel_eq b i l f hf, origin, hc, if_neg Bool.false_ne_true, gridVariables]
  exact Nat.lt_of_lt_of_le (Nat.add_lt_add_left hl _)
    (Nat.le_trans (simpleOffset_add_le b i f hf hc) (Nat.le_mul_of_pos_left _ htr))

/-- a derived factor whose window is the current trial: width 1, every dependency in the per-trial grid -/
structure GridFactor (b : LBlock) (d : DFactor) : Prop where
  width : d.width = 1
  deps : ∀ dep ∈ d.deps, ∃ g, b.factors[dep]? = some g ∧ g.complex = false

theorem grid_position (b : LBlock) (d : DFactor) (hg : GridFactor b d) (pos : Nat × Nat) (hp : pos ∈ positions d) :
    pos.2 = 0 ∧ ∃ g, b.factors[pos.1]? = some g ∧ g.complex = false ∧
      levelsOf b d pos = (List.range g.nlevels).map Entry.lvl := by
  simp only [positions, hg.width, List.mem_flatMap, List.mem_map, List.mem_range] at hp
  obtain ⟨dep, hdep, i, hi, rfl⟩ := hp
  obtain ⟨g, hgp, hgc⟩ := hg.deps dep hdep
  have hgd : b.factors.getD dep default = g := by rw [List.getD_eq_getElem?_getD, hgp]; rfl
  have hr : readyAt b dep = 0 := by rw [readyAt, hgd, hgc]; rfl
  refine ⟨Nat.lt_one_iff.1 hi, g, hgp, hgc, ?_⟩
  rw [levelsOf, hr, hg.width, hgd, if_neg (by omega)]

/-- the tuple of levels the dependencies have in trial `t0` (0-based) -/
def actual (d : DFactor) (s : TSeq) (t0 : Nat) : List Entry :=
  (positions d).map (fun pos => Entry.lvl (s pos.1 (t0 + 1)))

theorem actual_mem (p : PInput) (hwf : C14.WF p.layout) (s : TSeq) (hs : WellShaped p s) (d : DFactor)
    (hg : GridFactor p.layout d) (n : Nat) (hn : n < trials p) : actual d s n ∈ crossProduct p.layout d := by
  refine (mem_product (levelsOf p.layout d) (positions d) _).2 (fits_map_act _ _ _ fun pos hp => ?_)
  obtain ⟨_, g, hgp, hgc, hlv⟩ := grid_position p.layout d hg pos hp
  rw [hlv]
  exact List.mem_map.2 ⟨_, List.mem_range.2 (lt_nlevels_grid p hwf s hs pos.1 g hgp hgc n hn), rfl⟩

theorem entry_holds_iff (p : PInput) (hwf : C14.WF p.layout) (s : TSeq) (d : DFactor) (hg : GridFactor p.layout d)
    (n : Nat) (hn : n < trials p) (pos : Nat × Nat) (hp : pos ∈ positions d) (e : Entry) (he : e ∈ levelsOf p.layout d pos) :
    depVal p (assignOf p s) n (shiftEntry p.layout d pos e) = true ↔ e = Entry.lvl (s pos.1 (n + 1)) := by
  obtain ⟨h0, g, hgp, hgc, hlv⟩ := grid_position p.layout d hg pos hp
  rw [hlv] at he
  obtain ⟨l', hl', rfl⟩ := List.mem_map.1 he
  simp only [shiftEntry, depVal, h0, Nat.zero_mul, Nat.add_zero,
    assign_grid_var p hwf s pos.1 l' g hgp hgc (List.mem_range.1 hl') n hn, decide_eq_true_eq, Entry.lvl.injEq]
  exact eq_comm

/-- C15/C01: for a derived factor in the per-trial grid, the `Derivation` that `Derive.generate` builds for level `l`
    from the predicate tables demands of a well-shaped sequence exactly that in every trial the factor has level `l`
    iff `l`'s table accepts the levels its dependencies have in that trial. -/
theorem derivation_grid_seq (p : PInput) (hwf : C14.WF p.layout) (s : TSeq) (hs : WellShaped p s)
    (d : DFactor) (f : LFactor) (hf : p.layout.factors[d.fi]? = some f) (hfc : f.complex = false)
    (hg : GridFactor p.layout d) (l : Nat) (hl : l < f.nlevels) (htr : 0 < trials p) :
    SeqMeaning p s (derivationOf p.layout d l) ↔
      ∀ t0, t0 < trials p → (s d.fi (t0 + 1) = l ↔ accepts p.layout d l (actual d s t0) = true) := by
  have hD := firstVariableForLevel_lt_grid p.layout d.fi l f hf hfc hl htr
  show Meaning p 0 (assignOf p s) (derivationOf p.layout d l) ↔ _
  rw [derivationOf, meaning_derivation]
  simp only [derivationFormula, if_pos hD, Option.some.injEq, forall_eq', eval_derivationSimple]
  refine forall₂_congr fun t0 ht0 => ?_
  -- of the tuples of the cross product, exactly the one of the levels the sequence has in the trial is all true
  have huniq : ∀ tup ∈ crossProduct p.layout d,
      ((fun l => l.all (depVal p (assignOf p s) t0)) ∘ shiftTuple p.layout d) tup = true ↔ tup = actual d s t0 :=
      fun tup htup => by
    show (shiftTuple p.layout d tup).all _ = true ↔ _
    rw [shiftTuple, List.all_map]
    exact zip_all_iff (levelsOf p.layout d) (fun pos e => depVal p (assignOf p s) t0 (shiftEntry p.layout d pos e))
      (fun pos => Entry.lvl (s pos.1 (t0 + 1))) (positions d) tup ((mem_product ..).1 htup)
      (entry_holds_iff p hwf s d hg t0 ht0)
  rw [assign_grid_var p hwf s d.fi l f hf hfc hl t0 ht0, List.any_map, validTuples,
    List.any_filter_unique _ (actual_mem p hwf s hs d hg t0 ht0) huniq, Bool.eq_iff_iff,
    decide_eq_true_eq]

theorem mem_generate (b : LBlock) (ds : List DFactor) (cs : List PConstraint) (h : generate b ds = .ok cs)
    (c : PConstraint) : c ∈ cs ↔ ∃ d ∈ ds, ∃ l, l < d.tables.length ∧ c = derivationOf b d l := by
  unfold generate at h
  split at h
  · cases h
  · injection h with h
    subst h
    simp only [List.mem_flatMap, List.mem_map, List.mem_range, eq_comm]

theorem generate_ambiguous (b : LBlock) (ds : List DFactor) (d : DFactor) (hd : d ∈ ds) (h : ambiguous b d = true) :
    generate b ds = .error .valueError :=
  if_pos (List.any_eq_true.2 ⟨d, hd, h⟩)

/-- C15 for grid factors: a well-shaped sequence that satisfies every `Derivation` generated for the factor has in
    each trial exactly the level whose table accepts that trial's tuple. -/
theorem grid_factor_function (p : PInput) (hwf : C14.WF p.layout) (s : TSeq) (hs : WellShaped p s)
    (d : DFactor) (f : LFactor) (hf : p.layout.factors[d.fi]? = some f) (hfc : f.complex = false)
    (hg : GridFactor p.layout d) (htr : 0 < trials p)
    (hall : ∀ l, l < f.nlevels → SeqMeaning p s (derivationOf p.layout d l))
    (t0 : Nat) (ht0 : t0 < trials p) (l : Nat) (hl : l < f.nlevels) :
    accepts p.layout d l (actual d s t0) = true ↔ l = s d.fi (t0 + 1) :=
  ((derivation_grid_seq p hwf s hs d f hf hfc hg l hl htr).1 (hall l hl) t0 ht0).symm.trans eq_comm

theorem level_unique (b : LBlock) (d : DFactor) (h : ambiguous b d = false) (tup : List Entry)
    (ht : tup ∈ crossProduct b d) (l₁ l₂ : Nat) (h₁ : l₁ < d.tables.length) (h₂ : l₂ < d.tables.length)
    (a₁ : accepts b d l₁ tup = true) (a₂ : accepts b d l₂ tup = true) : l₁ = l₂ := by
  apply Decidable.byContradiction
  intro hne
  have hlen : 2 ≤ ((List.range d.tables.length).filter (fun l => accepts b d l tup)).length :=
    List.two_le_length_of_mem (List.mem_filter.2 ⟨List.mem_range.2 h₁, a₁⟩)
      (List.mem_filter.2 ⟨List.mem_range.2 h₂, a₂⟩) hne
  have : ambiguous b d = true := List.any_eq_true.2 ⟨tup, ht, decide_eq_true hlen⟩
  exact Bool.false_ne_true (h.symm.trans this)

theorem level_exists (b : LBlock) (d : DFactor) (h : uncovered b d = 0) (tup : List Entry)
    (ht : tup ∈ crossProduct b d) : ∃ l, l < d.tables.length ∧ accepts b d l tup = true := by
  have hnot := List.filter_eq_nil_iff.1 (List.eq_nil_of_length_eq_zero h) tup ht
  simpa only [Bool.not_eq_true', Bool.not_eq_false, List.any_eq_true, List.mem_range] using hnot

/-- C15 for grid factors, both directions: when `generate_derivations` accepts the factor (`hamb`: no tuple with two
    levels), a well-shaped sequence satisfies all of the factor's `Derivation`s iff in every trial the table of the
    level it has accepts that trial's tuple. -/
theorem grid_factor_iff (p : PInput) (hwf : C14.WF p.layout) (s : TSeq) (hs : WellShaped p s)
    (d : DFactor) (f : LFactor) (hf : p.layout.factors[d.fi]? = some f) (hfc : f.complex = false)
    (hg : GridFactor p.layout d) (htr : 0 < trials p) (hlen : d.tables.length = f.nlevels)
    (hamb : ambiguous p.layout d = false) :
    (∀ l, l < f.nlevels → SeqMeaning p s (derivationOf p.layout d l)) ↔
      ∀ t0, t0 < trials p → accepts p.layout d (s d.fi (t0 + 1)) (actual d s t0) = true := by
  have hlvl : ∀ t0, t0 < trials p → s d.fi (t0 + 1) < f.nlevels := lt_nlevels_grid p hwf s hs d.fi f hf hfc
  constructor
  · intro hall t0 ht0
    exact (grid_factor_function p hwf s hs d f hf hfc hg htr hall t0 ht0 _ (hlvl t0 ht0)).2 rfl
  · intro hacc l hl
    rw [derivation_grid_seq p hwf s hs d f hf hfc hg l hl htr]
    intro t0 ht0
    constructor
    · intro h; rw [← h]; exact hacc t0 ht0
    · intro hal
      exact (level_unique p.layout d hamb _ (actual_mem p hwf s hs d hg t0 ht0) l (s d.fi (t0 + 1))
        (hlen ▸ hl) (hlen ▸ hlvl t0 ht0) hal (hacc t0 ht0)).symm

-- the hypotheses are satisfiable: `congruent = (color == text)` over two trials

namespace Witness

def lay : LBlock :=
  { factors := [⟨2, false, 0, 1, 1⟩, ⟨2, false, 0, 1, 1⟩, ⟨2, false, 0, 1, 1⟩], trials := 2 }

/-- keys: (color + 1) * 3 + (text + 1) -/
def con : DFactor :=
  { fi := 2, deps := [0, 1], width := 1, startDelta := 0,
    tables := [#[false, false, false, false, true, false, false, false, true],
               #[false, false, false, false, false, true, false, true, false]] }

example : GridFactor lay con := ⟨rfl, by decide⟩

example : generate lay [con] = .ok
    [.derivation 4 [[.var 0, .var 2], [.var 1, .var 3]] 2 0, .derivation 5 [[.var 0, .var 3], [.var 1, .var 2]] 2 0] := by
  rfl

example : ambiguous lay con = false ∧ uncovered lay con = 0 ∧ unmatchedLevels lay con = [] := by decide +kernel

end Witness

end SPModel.Derive
