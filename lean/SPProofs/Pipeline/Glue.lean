/-
  For C03: the clause list compiled from a well-formed backend against `Backend.holds` (`WF.models`, `WF.unique`).
  Clauses give `holds` item by item (Tseitin soundness); `holds` gives clauses because the conversions, run at a chain
  of counters, can set their ranges one after the other (`chain_ext`); the cardinality encoders are
  `C10.combine_models`.  Uniqueness: a variable below the counter is a design variable, or defined by an `Iff` over
  design variables, or belongs to one conversion.
-/
import SPProofs.Pipeline.Chain
import SPProofs.Properties.C10
import SPProofs.Properties.C11
import SPProofs.Basic.Lits

namespace SPModel.Pipeline
open SPModel Layout

/-- the clause list `server.build_cnf` produces from a backend request -/
def compiled (b : Backend) : Except PyErr Cnf :=
  combineCnfWithRequests (cnfsJson b) (b.fresh - 1) b.reqs

theorem litOk_iff (rs : List (Nat × Nat)) (bound : Nat) (l : Int) :
    litOk rs bound l = true ↔ l ≠ 0 ∧ l.natAbs < bound ∧ inRanges rs l.natAbs = false := by
  simp [litOk, and_assoc]

theorem litOK_of_litOk {rs : List (Nat × Nat)} {n : Nat} {l : Int} (hl : litOk rs n l = true) : LitOK (n - 1) l := by
  obtain ⟨h0, h1, _⟩ := (litOk_iff _ _ _).1 hl
  exact ⟨h0, Nat.le_sub_one_of_lt h1⟩

theorem inRanges_aux_iff (items : List CnfItem) (v : Nat) :
    inRanges (auxRanges items) v = true ↔
      ∃ f fr, CnfItem.tseitin f fr ∈ items ∧ fr ≤ v ∧ v < (toCnfTseitin f fr).next := by
  simp only [inRanges, auxRanges, List.any_eq_true, List.mem_filterMap, Bool.and_eq_true, decide_eq_true_eq]
  constructor
  · rintro ⟨r, ⟨it, hit, hr⟩, h⟩
    cases it with
    | raw ls => cases hr
    | tseitin f fr => cases hr; exact ⟨f, fr, hit, h⟩
  · rintro ⟨f, fr, hm, h⟩
    exact ⟨_, ⟨_, hm, rfl⟩, h⟩

theorem chain_bounds (items : List CnfItem) (cur final : Nat) (h : chainOk cur items final = true) :
    cur ≤ final ∧ ∀ f fr, CnfItem.tseitin f fr ∈ items → cur ≤ fr ∧ (toCnfTseitin f fr).next ≤ final := by
  fun_induction chainOk cur items final with
  | case1 => exact ⟨of_decide_eq_true h, fun _ _ hm => nomatch hm⟩
  | case2 cur ls rest final ih =>
    obtain ⟨h1, h2⟩ := ih h
    exact ⟨h1, fun f fr hm => h2 f fr (by simpa using hm)⟩
  | case3 cur g gr rest final ih =>
    simp only [Bool.and_eq_true, decide_eq_true_eq] at h
    have hle := toCnfTseitin_next_le g gr
    obtain ⟨h1, h2⟩ := ih h.2
    refine ⟨Nat.le_trans h.1 (Nat.le_trans hle h1), fun f fr hm => ?_⟩
    rcases List.mem_cons.1 hm with hm | hm
    · cases hm; exact ⟨h.1, h1⟩
    · exact ⟨Nat.le_trans h.1 (Nat.le_trans hle (h2 f fr hm).1), (h2 f fr hm).2⟩

/-- Along a chain every assignment can be changed on the conversions' ranges so that each conversion's clauses follow
    from its formula: a conversion's definitions read below the end of its range, and the later ones start there. -/
theorem chain_ext (rs : List (Nat × Nat)) (items : List CnfItem) (cur final : Nat)
    (h : chainOk cur items final = true) (hc : 0 < cur)
    (hok : ∀ f fr, CnfItem.tseitin f fr ∈ items → f.WF fr ∧
      ∀ v, fr ≤ v ∧ v < (toCnfTseitin f fr).next → inRanges rs v = true) (ρ : Assign) :
    ∃ τ : Assign, (∀ v, v < cur ∨ inRanges rs v = false → τ v = ρ v) ∧
      ∀ f fr, CnfItem.tseitin f fr ∈ items → f.eval τ = true → cnfSat τ (toCnfTseitin f fr).cnf = true := by
  fun_induction chainOk cur items final generalizing ρ with
  | case1 => exact ⟨ρ, fun _ _ => rfl, fun _ _ hm => nomatch hm⟩
  | case2 cur ls rest final ih =>
    obtain ⟨τ, hf, hτ⟩ := ih h hc (fun f fr hm => hok f fr (List.mem_cons_of_mem _ hm)) ρ
    exact ⟨τ, hf, fun f fr hm => hτ f fr (by simpa using hm)⟩
  | case3 cur g gr rest final ih =>
    simp only [Bool.and_eq_true, decide_eq_true_eq] at h
    have hgr : 0 < gr := Nat.lt_of_lt_of_le hc h.1
    obtain ⟨hwf, hhead⟩ := hok g gr (List.mem_cons_self ..)
    obtain ⟨Dg, hDg, hsat, _⟩ := toCnfTseitin_spec g gr hgr hwf
    obtain ⟨τ₁, hf₁, hD₁⟩ := hDg.ex ρ
    obtain ⟨τ, hf, hτ⟩ := ih h.2 (Nat.lt_of_lt_of_le hgr hDg.le)
      (fun f fr hm => hok f fr (List.mem_cons_of_mem _ hm)) τ₁
    refine ⟨τ, fun v hv => ?_, fun f fr hm hf' => ?_⟩
    · rw [hf v (hv.imp_left fun h1 => Nat.lt_of_lt_of_le h1 (Nat.le_trans h.1 hDg.le))]
      refine hf₁ v fun hin => hv.elim (fun h1 => Nat.not_le.2 h1 (Nat.le_trans h.1 hin.1)) fun hr => ?_
      rw [hhead v hin] at hr; cases hr
    · rcases List.mem_cons.1 hm with hm | hm
      · cases hm
        exact (hsat τ).2 ⟨hDg.reads (fun v _ h2 => (hf v (.inl h2)).symm) hD₁, hf'⟩
      · exact hτ f fr hm hf'

/-- the clauses one entry of `backend_request.cnfs` contributes -/
def itemCnf : CnfItem → Cnf
  | .tseitin f fresh => (toCnfTseitin f fresh).cnf
  | .raw lits => lits.map (fun l => [l])

theorem cnfsJson_eq (b : Backend) : cnfsJson b = b.cnfs.flatMap itemCnf := by
  unfold cnfsJson
  congr

theorem cnfSat_cnfsJson (τ : Assign) (b : Backend) :
    cnfSat τ (cnfsJson b) = true ↔ ∀ it ∈ b.cnfs, cnfSat τ (itemCnf it) = true := by
  rw [cnfsJson_eq, cnfSat, List.all_flatMap, List.all_eq_true]
  rfl

theorem cnfSat_raw (τ : Assign) (ls : List Int) :
    cnfSat τ (ls.map (fun l => [l])) = ls.all (litVal τ) := by
  simp only [cnfSat, clauseSat, List.all_map, Function.comp_def, List.any_cons, List.any_nil, Bool.or_false]

/-- `Backend.wf`, unpacked -/
structure WF (b : Backend) (vps : Nat) : Prop where
  chain : chainOk (vps + 1) b.cnfs b.fresh = true
  tseitin : ∀ f fr, CnfItem.tseitin f fr ∈ b.cnfs →
    (flits f).all (litOk (auxRanges b.cnfs) fr) = true
  raw : ∀ ls, CnfItem.raw ls ∈ b.cnfs → ∀ l ∈ ls, litOk (auxRanges b.cnfs) b.fresh l = true
  reqs : ∀ r ∈ b.reqs, r.vars ≠ [] ∧ ∀ x ∈ r.vars, litOk (auxRanges b.cnfs) b.fresh x = true

theorem wf_unpack {b : Backend} {vps : Nat} (h : b.wf vps = true) : WF b vps := by
  simp only [Backend.wf, Bool.and_eq_true, List.all_eq_true] at h
  obtain ⟨⟨h1, h2⟩, h3⟩ := h
  refine ⟨h1, fun f fr hm => ?_, fun ls hm l hl => ?_, fun r hr => ?_⟩
  · exact h2 _ hm
  · exact List.all_eq_true.1 (h2 _ hm) l hl
  · simpa only [Bool.not_eq_true', List.isEmpty_eq_false_iff] using h3 r hr

namespace WF
variable {b : Backend} {vps : Nat}

theorem bounds (h : WF b vps) : vps + 1 ≤ b.fresh ∧ ∀ f fr, CnfItem.tseitin f fr ∈ b.cnfs →
    vps + 1 ≤ fr ∧ (toCnfTseitin f fr).next ≤ b.fresh :=
  chain_bounds b.cnfs (vps + 1) b.fresh h.chain

theorem item (h : WF b vps) {f : Formula} {fr : Nat} (hm : CnfItem.tseitin f fr ∈ b.cnfs) :
    0 < fr ∧ f.WF fr ∧ ∀ c ∈ (toCnfTseitin f fr).cnf, ∀ l ∈ c, l ≠ 0 ∧ l.natAbs < (toCnfTseitin f fr).next := by
  have hfr : 0 < fr := Nat.lt_of_lt_of_le (Nat.succ_pos _) (h.bounds.2 f fr hm).1
  have hok := fun l hl => (litOk_iff _ fr l).1 (List.all_eq_true.1 (h.tseitin f fr hm) l hl)
  have hwf : f.WF fr := (wf_iff_flits fr f).2 fun l hl => ⟨(hok l hl).1, (hok l hl).2.1⟩
  exact ⟨hfr, hwf, fun c hc l hl =>
    have hr := (C11.tseitin_range f fr hfr hwf).2 c hc l hl
    ⟨hr.1, hr.2.1⟩⟩

theorem cnfsJson_litOK (h : WF b vps) : ∀ c ∈ cnfsJson b, ∀ l ∈ c, LitOK (b.fresh - 1) l := by
  intro c hc l hl
  rw [cnfsJson_eq, List.mem_flatMap] at hc
  obtain ⟨it, hit, hc⟩ := hc
  cases it with
  | tseitin f fr =>
    obtain ⟨h0, h1⟩ := (h.item hit).2.2 c hc l hl
    exact ⟨h0, Nat.le_sub_one_of_lt (Nat.lt_of_lt_of_le h1 (h.bounds.2 f fr hit).2)⟩
  | raw ls =>
    simp only [itemCnf, List.mem_map] at hc
    obtain ⟨x, hx, rfl⟩ := hc
    rw [List.mem_singleton] at hl
    subst hl
    exact litOK_of_litOk (h.raw ls hit l hx)

theorem reqs_litOK (h : WF b vps) : ∀ r ∈ b.reqs, r.vars ≠ [] ∧ ∀ x ∈ r.vars, LitOK (b.fresh - 1) x :=
  fun r hr => ⟨(h.reqs r hr).1, fun x hx => litOK_of_litOk ((h.reqs r hr).2 x hx)⟩

theorem ok (h : WF b vps) : ∃ φ, compiled b = .ok φ :=
  (C10.combine_models (b.fresh - 1) (cnfsJson b) b.reqs h.cnfsJson_litOK h.reqs_litOK).imp fun _ h => h.1

theorem compiled_spec (h : WF b vps) {φ : Cnf} (hφ : compiled b = .ok φ) :
    (∀ σ : Assign, (∃ τ, Agree (b.fresh - 1) σ τ ∧ cnfSat τ φ = true) ↔
        (cnfSat σ (cnfsJson b) = true ∧ ∀ r ∈ b.reqs, r.holds σ = true)) ∧
    (∀ τ₁ τ₂ : Assign, cnfSat τ₁ φ = true → cnfSat τ₂ φ = true → Agree (b.fresh - 1) τ₁ τ₂ →
        ∀ v, 1 ≤ v → (∃ c ∈ φ, ∃ l ∈ c, l.natAbs = v) → τ₁ v = τ₂ v) := by
  obtain ⟨φ', e, hm⟩ := C10.combine_models (b.fresh - 1) (cnfsJson b) b.reqs h.cnfsJson_litOK h.reqs_litOK
  cases hφ.symm.trans e
  exact hm

theorem sat_base (h : WF b vps) {φ : Cnf} (hφ : compiled b = .ok φ) {τ : Assign}
    (hτ : cnfSat τ φ = true) : cnfSat τ (cnfsJson b) = true ∧ ∀ r ∈ b.reqs, r.holds τ = true :=
  ((h.compiled_spec hφ).1 τ).1 ⟨τ, Agree.refl _ _, hτ⟩

theorem item_holds_of_sat (h : WF b vps) {τ : Assign} (hτ : cnfSat τ (cnfsJson b) = true) :
    ∀ it ∈ b.cnfs, it.holds τ = true := by
  intro it hit
  have hs := (cnfSat_cnfsJson τ b).1 hτ it hit
  cases it with
  | tseitin f fr =>
    obtain ⟨hfr, hwf, _⟩ := h.item hit
    exact (C11.tseitin_models f fr hfr hwf τ).2 ⟨τ, fun _ _ _ => rfl, hs⟩
  | raw ls => exact (cnfSat_raw τ ls).symm.trans hs

theorem sat_ext (h : WF b vps) {ρ : Assign} (hρ : b.holds ρ = true) :
    ∃ τ₀ : Assign, (∀ v, v ≤ vps ∨ isAux b.cnfs v = false → τ₀ v = ρ v) ∧
      cnfSat τ₀ (cnfsJson b) = true ∧ ∀ r ∈ b.reqs, r.holds τ₀ = true := by
  obtain ⟨hit, hrq⟩ := (holds_def b ρ).1 hρ
  -- `τ₀` is `ρ` with the auxiliary ranges set by the conversions' own definitions; no literal of the backend lies in
  -- such a range (`hlit`), so formulas, raw items and requests keep their values
  obtain ⟨τ₀, h2, hτ⟩ := chain_ext (auxRanges b.cnfs) b.cnfs (vps + 1) b.fresh h.chain (Nat.succ_pos _)
    (fun f fr hm => ⟨(h.item hm).2.1, fun v hv => (inRanges_aux_iff _ v).2 ⟨f, fr, hm, hv⟩⟩) ρ
  have hlit : ∀ {n : Nat} {l : Int}, litOk (auxRanges b.cnfs) n l = true → τ₀ l.natAbs = ρ l.natAbs :=
    fun hl => h2 _ (.inr ((litOk_iff _ _ _).1 hl).2.2)
  refine ⟨τ₀, fun v hv => h2 v (hv.imp_left Nat.lt_succ_of_le), ?_, ?_⟩
  · rw [cnfSat_cnfsJson]
    intro it hm
    cases it with
    | tseitin f fr =>
      refine hτ f fr hm ((eval_congr_vars f fun v hv => ?_).trans (hit _ hm))
      obtain ⟨l, hl, rfl⟩ := List.mem_map.1 (vars_eq_flits f ▸ hv)
      exact hlit (List.all_eq_true.1 (h.tseitin f fr hm) l hl)
    | raw ls =>
      rw [itemCnf, cnfSat_raw]
      exact (List.all_congr_mem fun l hl => litVal_congr_on (hlit (h.raw ls hm l hl))).trans (hit _ hm)
  · intro r hr
    rw [← hrq r hr]
    exact r.holds_congr_on fun x hx => hlit ((h.reqs r hr).2 x hx)

theorem models (h : WF b vps) {φ : Cnf} (hφ : compiled b = .ok φ) (σ : Assign) :
    (∃ τ, Agree vps σ τ ∧ cnfSat τ φ = true) ↔ (∃ ρ, Agree vps σ ρ ∧ b.holds ρ = true) := by
  constructor
  · rintro ⟨τ, ha, hτ⟩
    obtain ⟨hb, hr⟩ := h.sat_base hφ hτ
    exact ⟨τ, ha, (holds_def b τ).2 ⟨h.item_holds_of_sat hb, hr⟩⟩
  · rintro ⟨ρ, ha, hρ⟩
    obtain ⟨τ₀, h0, hs, hr⟩ := h.sat_ext hρ
    obtain ⟨τ, hag, hτ⟩ := ((h.compiled_spec hφ).1 τ₀).2 ⟨hs, hr⟩
    refine ⟨τ, fun v hv1 hv2 => ?_, hτ⟩
    rw [ha v hv1 hv2, ← hag v hv1 (Nat.le_sub_one_of_lt (Nat.lt_of_le_of_lt hv2 h.bounds.1)), h0 v (.inl hv2)]

end WF

theorem states_cases {b : Backend} {vps : Nat} (hd : b.statesDefined vps = true) (v : Nat) (hv : v < b.fresh) :
    v ≤ vps ∨ isAux b.cnfs v = true ∨ hasDef b.cnfs vps v = true := by
  simpa [Backend.statesDefined, isAux, or_assoc] using List.all_eq_true.1 hd v (List.mem_range.2 hv)

theorem def_unique {cnfs : List CnfItem} {vps v : Nat} (hd : hasDef cnfs vps v = true) (hv : 1 ≤ v)
    {ρ₁ ρ₂ : Assign} (h₁ : ∀ it ∈ cnfs, it.holds ρ₁ = true) (h₂ : ∀ it ∈ cnfs, it.holds ρ₂ = true)
    (hag : Agree vps ρ₁ ρ₂) : ρ₁ v = ρ₂ v := by
  -- some item is `And [.., Iff (lit v) (And ls), ..]` with `ls` literals of design variables (`definesVar`):
  -- both assignments give `v` the value of `And ls`, on which they agree
  obtain ⟨it, hit, hd⟩ := List.any_eq_true.1 hd
  split at hd
  · obtain ⟨g, hg, hd⟩ := List.any_eq_true.1 hd
    have g₁ : g.eval ρ₁ = true := List.all_eq_true.1 ((evalAll_eq_all ρ₁ _).symm.trans (h₁ _ hit)) g hg
    have g₂ : g.eval ρ₂ = true := List.all_eq_true.1 ((evalAll_eq_all ρ₂ _).symm.trans (h₂ _ hit)) g hg
    unfold definesVar at hd
    split at hd
    · obtain ⟨hx, hls⟩ := Bool.and_eq_true_iff.1 hd
      cases of_decide_eq_true hx
      simp only [Formula.eval, litVal_natCast _ v hv, beq_iff_eq] at g₁ g₂
      rw [g₁, g₂, evalAll_eq_all, evalAll_eq_all]
      refine List.all_congr_mem fun l hl => ?_
      have hl := List.all_eq_true.1 hls l hl
      split at hl
      · simp only [Bool.and_eq_true, decide_eq_true_eq] at hl
        exact LitOK.litVal_congr hl hag
      · cases hl
    · cases hd
  · cases hd

namespace WF
variable {b : Backend} {vps : Nat}

theorem agree_all (h : WF b vps) (hd : b.statesDefined vps = true) {τ₁ τ₂ : Assign}
    (h₁ : cnfSat τ₁ (cnfsJson b) = true) (h₂ : cnfSat τ₂ (cnfsJson b) = true)
    (hag : Agree vps τ₁ τ₂) (v : Nat) : 1 ≤ v → v < b.fresh → τ₁ v = τ₂ v := by
  induction v using Nat.strongRecOn with | _ v ih =>
  intro hv1 hvf
  rcases states_cases hd v hvf with hle | haux | hdef
  · exact hag v hv1 hle
  · obtain ⟨f, fr, hm, hfr, hnx⟩ := (inRanges_aux_iff _ _).1 haux
    obtain ⟨hfr0, hwf, _⟩ := h.item hm
    -- a conversion's variables are determined by the variables below its counter: those are smaller than `v`
    exact C11.tseitin_unique f fr hfr0 hwf τ₁ τ₂ ((cnfSat_cnfsJson τ₁ b).1 h₁ (.tseitin f fr) hm)
      ((cnfSat_cnfsJson τ₂ b).1 h₂ (.tseitin f fr) hm)
      (fun w hw1 hw2 => ih w (Nat.lt_of_lt_of_le hw2 hfr) hw1 (Nat.lt_trans (Nat.lt_of_lt_of_le hw2 hfr) hvf))
      v hv1 hnx
  · exact def_unique hdef hv1 (h.item_holds_of_sat h₁) (h.item_holds_of_sat h₂) hag

theorem unique (h : WF b vps) (hd : b.statesDefined vps = true) {φ : Cnf} (hφ : compiled b = .ok φ)
    {τ₁ τ₂ : Assign} (h₁ : cnfSat τ₁ φ = true) (h₂ : cnfSat τ₂ φ = true) (hag : Agree vps τ₁ τ₂) :
    ∀ v, 1 ≤ v → (∃ c ∈ φ, ∃ l ∈ c, l.natAbs = v) → τ₁ v = τ₂ v := by
  have b₁ := (h.sat_base hφ h₁).1
  have b₂ := (h.sat_base hφ h₂).1
  have hf := h.bounds.1
  exact (h.compiled_spec hφ).2 τ₁ τ₂ h₁ h₂ fun v hv1 hv2 =>
    h.agree_all hd b₁ b₂ hag v hv1 (Nat.lt_of_le_sub_one (Nat.lt_of_lt_of_le (Nat.succ_pos _) hf) hv2)

end WF

theorem holds_unique_of_statesDefined {b : Backend} {vps : Nat} (hd : b.statesDefined vps = true)
    {ρ₁ ρ₂ : Assign} (h₁ : b.holds ρ₁ = true) (h₂ : b.holds ρ₂ = true) (hag : Agree vps ρ₁ ρ₂) :
    ∀ v, 1 ≤ v → v < b.fresh → isAux b.cnfs v = false → ρ₁ v = ρ₂ v := by
  intro v hv1 hvf haux
  rcases states_cases hd v hvf with hle | hx | hdef
  · exact hag v hv1 hle
  · exact Bool.noConfusion (hx.symm.trans haux)
  · exact def_unique hdef hv1 ((holds_def b ρ₁).1 h₁).1 ((holds_def b ρ₂).1 h₂).1 hag

end SPModel.Pipeline
