/-
  Items that run one after the other, each from the fresh-variable counter the one before left: `Cross.apply` over
  the crossings, `build_backend_request` over the constraints.  The steps are `Steady`, so the counter a step leaves
  is a function (`after`) of the one it found, and the meanings of the items compose (`holds_foldl`).
  Before that, two ground facts about backends: `holds_def`, and a formula read through its literal list `flits`
  (`wf_iff_flits`, `eval_congr_agree`).
-/
import SPModel.PipelineSem
import SPProofs.Logic.Lemmas
import SPProofs.Basic.Lits

namespace SPModel.Pipeline
open SPModel

theorem holds_def (b : Backend) (ρ : Assign) :
    b.holds ρ = true ↔ (∀ it ∈ b.cnfs, it.holds ρ = true) ∧ (∀ r ∈ b.reqs, r.holds ρ = true) := by
  simp only [Backend.holds, Bool.and_eq_true, List.all_eq_true]

theorem vars_eq_flits : ∀ f : Formula, f.vars = (flits f).map Int.natAbs := by
  apply Formula.rec (motive_1 := fun f => f.vars = (flits f).map Int.natAbs)
    (motive_2 := fun fs => Formula.varsList fs = (flitsList fs).map Int.natAbs)
  all_goals intros
  all_goals simp only [flits, flitsList, Formula.vars, Formula.varsList, List.map_append, List.map_cons, List.map_nil, *]

theorem wf_iff_flits (n : Nat) (f : Formula) : f.WF n ↔ ∀ l ∈ flits f, l ≠ 0 ∧ l.natAbs < n := by
  rw [WF_iff_vars, vars_eq_flits, List.forall_mem_map]
  simp only [Int.natAbs_pos]

theorem eval_congr_agree {n : Nat} {σ ρ : Assign} (hag : Agree n σ ρ) (g : Formula)
    (h : ∀ l ∈ flits g, l ≠ 0 ∧ l.natAbs ≤ n) : g.eval σ = g.eval ρ :=
  eval_congr (agreeBelow_succ.2 hag) g
    ((wf_iff_flits (n + 1) g).2 fun l hl => ⟨(h l hl).1, Nat.lt_succ_of_le (h l hl).2⟩)

namespace Chain

/-- `step` never lowers the counter, and the counter it leaves depends on the backend only through the counter -/
structure Steady (step : Backend → Backend) : Prop where
  le : ∀ b, b.fresh ≤ (step b).fresh
  congr : ∀ b₁ b₂, b₁.fresh = b₂.fresh → (step b₁).fresh = (step b₂).fresh

theorem Steady.of_keep {step : Backend → Backend} (h : ∀ b, (step b).fresh = b.fresh) : Steady step :=
  ⟨fun b => Nat.le_of_eq (h b).symm, fun b₁ b₂ e => by rw [h, h, e]⟩

theorem Steady.comp {f g : Backend → Backend} (hf : Steady f) (hg : Steady g) : Steady fun b => g (f b) :=
  ⟨fun b => Nat.le_trans (hf.le b) (hg.le _), fun _ _ e => hg.congr _ _ (hf.congr _ _ e)⟩

theorem Steady.foldl {α : Type} (step : Backend → α → Backend) (h : ∀ x, Steady (step · x)) (l : List α) :
    Steady (l.foldl step ·) := by
  induction l with
  | nil => exact .of_keep fun _ => rfl
  | cons x xs ih => exact (h x).comp ih

variable {α : Type}

def after (step : Backend → α → Backend) (fr : Nat) (a : α) : Nat :=
  (step { fresh := fr, cnfs := [], reqs := [] } a).fresh

theorem Steady.fresh_eq {step : Backend → α → Backend} {a : α} (h : Steady (step · a)) (b : Backend) :
    (step b a).fresh = after step b.fresh a :=
  h.congr b _ rfl

variable (next : Nat → α → Nat)

def stop : Nat → List α → Nat
  | fr, [] => fr
  | fr, a :: as => stop (next fr a) as

/-- `R fr ρ a` of every item, each at the counter the items before it left -/
def All (R : Nat → Assign → α → Prop) : Nat → Assign → List α → Prop
  | _, _, [] => True
  | fr, ρ, a :: as => R fr ρ a ∧ All R (next fr a) ρ as

variable {next}

theorem All.of_mem {R : Nat → Assign → α → Prop} {ρ : Assign} {a : α} {as : List α} {fr : Nat}
    (h : All next R fr ρ as) (hm : a ∈ as) : ∃ fr', R fr' ρ a := by
  induction as generalizing fr with
  | nil => cases hm
  | cons b as ih =>
    rcases List.mem_cons.1 hm with rfl | hm
    · exact ⟨fr, h.1⟩
    · exact ih h.2 hm

theorem all_iff {R R' : Nat → Assign → α → Prop} {S : α → Prop} {ρ : Assign} (as : List α) (fr : Nat)
    (h : ∀ a ∈ as, ∀ fr, R fr ρ a ↔ R' fr ρ a ∧ S a) :
    All next R fr ρ as ↔ All next R' fr ρ as ∧ ∀ a ∈ as, S a := by
  induction as generalizing fr with
  | nil => simp [All]
  | cons a as ih =>
    simp only [All, List.forall_mem_cons, h a List.mem_cons_self, ih _ fun b hb => h b (List.mem_cons_of_mem _ hb)]
    exact and_and_and_comm

/-- `R fr · a` can be met by changing an assignment from `fr` on, and every assignment that agrees with the result
    below `next fr a` meets it too -/
abbrev Settable (next : Nat → α → Nat) (R : Nat → Assign → α → Prop) (a : α) : Prop :=
  ∀ (fr : Nat) (ρ₀ : Assign), fr ≤ next fr a ∧ ∃ ρ : Assign, (∀ v, v < fr → ρ v = ρ₀ v) ∧
    ∀ ρ' : Assign, (∀ v, v < next fr a → ρ' v = ρ v) → R fr ρ' a

theorem settable_all {R : Nat → Assign → α → Prop} (as : List α) (h : ∀ a ∈ as, Settable next R a) :
    Settable (stop next) (All next R) as := by
  induction as with
  | nil => exact fun _ ρ₀ => ⟨Nat.le_refl _, ρ₀, fun _ _ => rfl, fun _ _ => trivial⟩
  | cons a as ih =>
    intro fr ρ₀
    obtain ⟨hle, ρ₁, h10, hρ₁⟩ := h a List.mem_cons_self fr ρ₀
    obtain ⟨hle', ρ, hρ1, hρ⟩ := ih (fun b hb => h b (List.mem_cons_of_mem _ hb)) (next fr a) ρ₁
    refine ⟨Nat.le_trans hle hle', ρ, fun v hv => ?_, fun ρ' hρ' => ⟨hρ₁ ρ' fun v hv => ?_, hρ ρ' hρ'⟩⟩
    · rw [hρ1 v (Nat.lt_of_lt_of_le hv hle), h10 v hv]
    · rw [hρ' v (Nat.lt_of_lt_of_le hv hle'), hρ1 v hv]

theorem fresh_foldl (step : Backend → α → Backend) (hs : ∀ a, Steady (step · a)) (as : List α) (b : Backend) :
    (as.foldl step b).fresh = stop (after step) b.fresh as := by
  induction as generalizing b with
  | nil => rfl
  | cons a as ih => rw [List.foldl_cons, ih, (hs a).fresh_eq]; rfl

theorem holds_foldl {R : Nat → Assign → α → Prop} (step : Backend → α → Backend) (hs : ∀ a, Steady (step · a))
    (ρ : Assign) (as : List α) (b : Backend) (hb : 0 < b.fresh)
    (h : ∀ a ∈ as, ∀ b : Backend, 0 < b.fresh → ((step b a).holds ρ = true ↔ b.holds ρ = true ∧ R b.fresh ρ a)) :
    (as.foldl step b).holds ρ = true ↔ b.holds ρ = true ∧ All (after step) R b.fresh ρ as := by
  induction as generalizing b with
  | nil => exact (and_iff_left trivial).symm
  | cons a as ih =>
    rw [List.foldl_cons, ih _ (Nat.lt_of_lt_of_le hb ((hs a).le b)) fun c hc => h c (List.mem_cons_of_mem _ hc),
      h a List.mem_cons_self b hb, (hs a).fresh_eq]
    exact and_assoc

end Chain

end SPModel.Pipeline
