/-
  The Boolean side conditions the driver evaluates on real blocks (`inputOk`, `seqOk`, `crossOk`) imply the
  propositional hypotheses of the theorems (`C14.WF`, `ConstraintOk`, `CrossOk`).
-/
import SPProofs.Pipeline.Assemble

namespace SPModel.Pipeline
open SPModel Layout

theorem layoutOk_wf (b : LBlock) (h : layoutOk b = true) : C14.WF b := by
  intro f hf
  have := List.all_eq_true.1 h f hf
  simp only [Bool.and_eq_true, Bool.or_eq_true, decide_eq_true_eq] at this
  obtain ⟨⟨⟨h1, h2⟩, h3⟩, h4⟩ := this
  refine ⟨h1, h2, h3, fun hc => ?_⟩
  rcases h4 with h4 | h4
  · rw [hc] at h4; cases h4
  · exact h4

theorem withinOk_spec (w : Option (Nat × Nat)) (h : withinOk w = true) : WithinOk w := by
  intro len pre hw
  subst hw
  simpa [withinOk] using h

theorem constraintOk_spec (p : PInput) (c : PConstraint) (h : constraintOk p c = true) : ConstraintOk p c := by
  have and3 : ∀ {k i n : Nat} {w : Option (Nat × Nat)},
      (decide (0 < k) && decide (i < n) && withinOk w) = true → 0 < k ∧ i < n ∧ WithinOk w := fun h =>
    have h := Bool.and_eq_true_iff.1 h
    have h1 := Bool.and_eq_true_iff.1 h.1
    ⟨of_decide_eq_true h1.1, of_decide_eq_true h1.2, withinOk_spec _ h.2⟩
  cases c with
  | noop | consistency | sustain | derivation => trivial
  | cross =>
    intro c hc
    have := List.all_eq_true.1 h c hc
    simp only [Bool.and_eq_true, decide_eq_true_eq, List.all_eq_true] at this
    exact ⟨this.1.1, this.1.2, this.2⟩
  | exclude | pin | sequential => exact of_decide_eq_true (p := _ < _) h
  | atMost k i l w =>
    have h := Bool.and_eq_true_iff.1 h
    exact ⟨of_decide_eq_true h.1, withinOk_spec _ h.2⟩
  | atLeast | exactlyInARow | exactlyK => exact and3 h

theorem inputOk_spec (p : PInput) (h : inputOk p = true) :
    C14.WF p.layout ∧ ∀ c ∈ p.constraints, ConstraintOk p c := by
  simp only [inputOk, Bool.and_eq_true, List.all_eq_true] at h
  exact ⟨layoutOk_wf _ h.1, fun c hc => constraintOk_spec p c (h.2 c hc)⟩

theorem checkWf_input (p : PInput) (hc : checkWf p = (true, true, true)) :
    C14.WF p.layout ∧ ∀ c ∈ p.constraints, ConstraintOk p c :=
  inputOk_spec p (congrArg (fun x => x.2.2) hc)

theorem seqOk_spec (p : PInput) (h : seqOk p = true) :
    (∀ c ∈ p.constraints, ∀ g, derivationFormula p c = some g →
      ∀ l ∈ flits g, l ≠ 0 ∧ l.natAbs ≤ variablesPerSample p.layout) ∧
    (∀ c ∈ p.constraints, levelOk p c = true) ∧ PConstraint.consistency ∈ p.constraints := by
  simp only [seqOk, Bool.and_eq_true, List.all_eq_true, List.any_eq_true] at h
  obtain ⟨⟨hder, hlev⟩, c, hc, hm⟩ := h
  refine ⟨fun c hc g hg => ?_, hlev, ?_⟩
  · have := hder c hc
    rw [hg] at this
    simpa only [List.all_eq_true, Bool.and_eq_true, decide_eq_true_eq] using this
  · cases c with
    | consistency => exact hc
    | _ => cases hm

/-- what reading `Cross` at the level of sequences needs beyond `ConstraintOk .cross`: every level an allowed
    combination names exists, and the crossed factors apply in every crossing trial.  (With `l ≥ nlevels`,
    `encodeVar i l t` is a variable of another factor.) -/
def CrossOk (p : PInput) : Prop :=
  ∀ c ∈ p.crossings, ∀ ci, ci < c.combos.length → ∀ fl ∈ c.factors.zip (c.combos.getD ci []),
    fl.2 < (factorAt p fl.1).nlevels ∧
      ∀ t, c.preamble < t → t ≤ trials p → appliesTrial (factorAt p fl.1) t = true

theorem crossOk_spec (p : PInput) (h : crossOk p = true) : CrossOk p := by
  intro c hc ci hci fl hfl
  simp only [crossOk, List.all_eq_true, List.mem_range, Bool.and_eq_true, decide_eq_true_eq, Bool.or_eq_true,
    Bool.not_eq_true', decide_eq_false_iff_not] at h
  obtain ⟨h1, h2⟩ := h c hc ci hci fl hfl
  exact ⟨h1, fun t ht1 ht2 => (h2 t (Nat.lt_succ_of_le ht2)).resolve_left (not_not_intro ht1)⟩

end SPModel.Pipeline
