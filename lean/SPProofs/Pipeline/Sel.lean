/-
  Vocabulary of the per-constraint meaning theorems (`sel`, `selIn`), and how `Backend.holds` distributes over
  what a constraint's `apply` appends.
-/
import SPModel.PipelineSem
import SPProofs.Pipeline.VarLists
import SPProofs.Logic.Lemmas
import SPProofs.Basic.Lits

namespace SPModel.Pipeline
open SPModel Layout

/-- level `l` of factor `i` is selected in the (1-based) trial `t` -/
def sel (p : PInput) (ρ : Assign) (i l t : Nat) : Bool := ρ (encodeVar p.layout i l t)

def selIn (p : PInput) (ρ : Assign) (i l : Nat) (f : LFactor) (a b : Nat) : List Bool :=
  (applicable f a b).map (fun t => sel p ρ i l (t + 1))

theorem litVal_enc (p : PInput) (ρ : Assign) (i l t : Nat) (f : LFactor) (hf : p.layout.factors[i]? = some f) :
    litVal ρ (enc p i l t) = sel p ρ i l t ∧ litVal ρ (-(enc p i l t)) = !sel p ρ i l t := by
  have hpos : 0 < encodeVar p.layout i l t := by rw [encodeVar_eq _ _ _ _ f hf]; exact Nat.succ_pos _
  have h1 : litVal ρ (enc p i l t) = sel p ρ i l t := litVal_natCast ρ _ hpos
  have hne : enc p i l t ≠ 0 := Int.natCast_ne_zero.2 (Nat.ne_of_gt hpos)
  exact ⟨h1, by rw [litVal_neg ρ _ hne, h1]⟩

/-- the result of every `apply` has this shape: `holds` reads the items and the requests only, and both only grow -/
theorem holds_append (b : Backend) (items : List CnfItem) (rs : List Request) (fr : Nat) (e : Option PyErr) (ρ : Assign) :
    ({ fresh := fr, cnfs := b.cnfs ++ items, reqs := b.reqs ++ rs, err := e } : Backend).holds ρ = true ↔
      b.holds ρ = true ∧ (∀ it ∈ items, it.holds ρ = true) ∧ (∀ r ∈ rs, r.holds ρ = true) := by
  simp only [Backend.holds, List.all_append, Bool.and_eq_true, List.all_eq_true]
  exact and_and_and_comm

theorem holds_addCnf1 (b : Backend) (it : CnfItem) (ρ : Assign) :
    ({ b with cnfs := b.cnfs ++ [it] } : Backend).holds ρ = true ↔ b.holds ρ = true ∧ it.holds ρ = true := by
  simp only [Backend.holds, List.all_append, List.all_cons, List.all_nil, Bool.and_true, Bool.and_eq_true]
  exact and_right_comm

theorem holds_addReqs (b : Backend) (rs : List Request) (ρ : Assign) :
    ({ b with reqs := b.reqs ++ rs } : Backend).holds ρ = true ↔
      b.holds ρ = true ∧ ∀ r ∈ rs, r.holds ρ = true := by
  simp only [Backend.holds, List.all_append, Bool.and_eq_true, and_assoc, List.all_eq_true]

theorem holds_pushFormula (b : Backend) (f : Formula) (ρ : Assign) :
    (pushFormula b f).holds ρ = true ↔ b.holds ρ = true ∧ f.eval ρ = true :=
  holds_addCnf1 b (.tseitin f b.fresh) ρ

theorem holds_fail (b : Backend) (e : PyErr) (ρ : Assign) : (b.fail e).holds ρ = b.holds ρ := by
  unfold Backend.fail; split <;> rfl

theorem fresh_fail (b : Backend) (e : PyErr) : (b.fail e).fresh = b.fresh := by
  unfold Backend.fail; split <;> rfl

theorem holds_foldl {α : Type} {ρ : Assign} (step : Backend → α → Backend) (P : α → Prop)
    (h : ∀ b x, (step b x).holds ρ = true ↔ b.holds ρ = true ∧ P x) (xs : List α) (b : Backend) :
    (xs.foldl step b).holds ρ = true ↔ b.holds ρ = true ∧ ∀ x ∈ xs, P x := by
  induction xs generalizing b with
  | nil => simp
  | cons x xs ih => rw [List.foldl_cons, ih, h, List.forall_mem_cons, and_assoc]

end SPModel.Pipeline
