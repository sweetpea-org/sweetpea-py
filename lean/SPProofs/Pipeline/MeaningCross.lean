/-
  `crossStep_meaning`, one crossing of `Cross.apply`: a state variable per (crossing trial, allowed combination) equal to
  "the combination is selected in that trial"; per combination and chunk of `crossing_size * crossing_weight` crossing
  trials the combination occurs `weight * crossing_weight` times (at most that often in a trailing partial chunk).
-/
import SPProofs.Pipeline.Sel

namespace SPModel.Pipeline
open SPModel Layout

def comboSel (p : PInput) (ρ : Assign) (c : PCrossing) (ci t : Nat) : Bool :=
  (c.factors.zip (c.combos.getD ci [])).all (fun fl => sel p ρ fl.1 fl.2 t)

/-- number of crossing trials with `q` in chunk `j` (of length `chunk`, the last one possibly shorter) -/
def chunkCount (T chunk j : Nat) (q : Nat → Bool) : Nat :=
  ((List.range (min chunk (T - j * chunk))).filter (fun u => q (j * chunk + u))).length

/-- `chunkCount` only evaluates its predicate below the number of crossing trials -/
theorem chunkCount_congr {T ch j : Nat} {q q' : Nat → Bool} (h : ∀ ti, ti < T → q ti = q' ti) :
    chunkCount T ch j q = chunkCount T ch j q' :=
  congrArg List.length (List.filter_congr fun _ hu =>
    h _ (Nat.add_lt_of_lt_sub' (Nat.lt_min.1 (List.mem_range.1 hu)).2))

theorem getD_map_range {α : Type} (g : Nat → α) (n i : Nat) (d : α) (h : i < n) :
    ((List.range n).map g).getD i d = g i := by
  simp [List.getD_eq_getElem?_getD, h]

theorem chunk_filter_length (ρ : Assign) (g : Nat → Int) (q : Nat → Bool) (T ch j : Nat)
    (hq : ∀ ti, ti < T → litVal ρ (g ti) = q ti) :
    (((((List.range T).map g).drop (j * ch)).take ch).filter (litVal ρ)).length = chunkCount T ch j q := by
  have e : (((List.range T).map g).drop (j * ch)).take ch =
      (List.range (min ch (T - j * ch))).map (fun u => g (j * ch + u)) := by
    rw [← List.map_drop, ← List.map_take, take_drop_range, List.map_map]
    rfl
  rw [e, List.filter_map, List.length_map]
  exact chunkCount_congr (q := litVal ρ ∘ g) hq

/-- `Cross.__add_weight_constraint` on the state variables `g 0, …, g (T - 1)` of one combination -/
theorem weightRequests_holds (ρ : Assign) (g : Nat → Int) (q : Nat → Bool) (T w size cw : Nat)
    (hch : 0 < size * cw) (hq : ∀ ti, ti < T → litVal ρ (g ti) = q ti) :
    (∀ r ∈ weightRequests ((List.range T).map g) w size cw, r.holds ρ = true) ↔
      ∀ j, j * (size * cw) < T →
        if (j + 1) * (size * cw) ≤ T then chunkCount T (size * cw) j q = w * cw
        else chunkCount T (size * cw) j q ≤ w * cw := by
  dsimp only [weightRequests]
  rw [if_neg (Nat.ne_of_gt hch)]
  generalize size * cw = ch at hch
  simp only [List.forall_mem_map, List.mem_range, List.length_map, List.length_range, List.length_drop,
    lt_ceil_div _ _ _ hch]
  refine forall_congr' fun j => imp_congr_right fun hj => ?_
  rw [← chunk_filter_length ρ g q T ch j hq, Nat.add_mul, Nat.one_mul]
  by_cases hc : ch ≤ T - j * ch
  · rw [if_pos hc, if_pos (Nat.add_le_of_le_sub' (Nat.le_of_lt hj) hc)]
    simp only [Request.holds, beq_iff_eq]
  · rw [if_neg hc, if_neg fun h => hc (Nat.le_sub_of_add_le' h), List.take_of_length_le]
    · simp only [Request.holds, decide_eq_true_eq, Nat.lt_succ_iff]
    · rw [List.length_drop, List.length_map, List.length_range]
      exact Nat.le_of_lt (Nat.not_le.1 hc)

theorem eval_state_iff (p : PInput) (ρ : Assign) (c : PCrossing) (ci t v : Nat) (hv : 0 < v)
    (hfac : ∀ i ∈ c.factors, i < p.layout.factors.length) :
    Formula.eval ρ (Formula.iff (lit (v : Int))
        (.and ((c.factors.zip (c.combos.getD ci [])).map (fun fl => lit (enc p fl.1 fl.2 t))))) = true ↔
      ρ v = comboSel p ρ c ci t := by
  have e : (c.factors.zip (c.combos.getD ci [])).all (Formula.eval ρ ∘ fun fl => lit (enc p fl.1 fl.2 t)) =
      comboSel p ρ c ci t :=
    List.all_congr_mem fun fl hfl =>
      (SPModel.eval_lit ρ _).trans (litVal_enc p ρ fl.1 fl.2 t _
        (List.getElem?_eq_getElem (hfac fl.1 (List.of_mem_zip hfl).1))).1
  rw [SPModel.eval_iff, lit, SPModel.eval_lit, litVal_natCast ρ v hv, eval_and, List.all_map, e]

/-- `hfresh` is needed: with `b.fresh = 0` the state variable of (trial 0, combination 0) is the literal `0`, whose
    `litVal` is `!ρ 0` (no factors, `combos = [[]]`, one trial, `ρ = fun _ => true`: left side false, right side true).
    `buildBackend` starts at `variablesPerSample + 1`, and `fresh` never decreases. -/
theorem crossStep_meaning (p : PInput) (b : Backend) (c : PCrossing)
    (hpre : c.preamble < trials p) (hchunk : 0 < c.size * c.weight)
    (hfac : ∀ i ∈ c.factors, i < p.layout.factors.length) (hfresh : 0 < b.fresh) (ρ : Assign) :
    (crossStep p b c).holds ρ = true ↔
      b.holds ρ = true ∧
      (∀ ti ci, ti < trials p - c.preamble → ci < c.combos.length →
          ρ (b.fresh + ti * c.combos.length + ci) = comboSel p ρ c ci (c.preamble + 1 + ti)) ∧
      (∀ ci, ci < c.combos.length → ∀ j, j * (c.size * c.weight) < trials p - c.preamble →
          let cnt := chunkCount (trials p - c.preamble) (c.size * c.weight) j
            (fun ti => comboSel p ρ c ci (c.preamble + 1 + ti))
          if (j + 1) * (c.size * c.weight) ≤ trials p - c.preamble
          then cnt = c.weights.getD ci 0 * c.weight
          else cnt ≤ c.weights.getD ci 0 * c.weight) := by
  unfold crossStep
  rw [if_neg (Nat.not_le.2 hpre)]
  refine (holds_append b _ _ _ b.err ρ).trans (and_congr_right fun _ => ?_)
  simp only [List.forall_mem_singleton, CnfItem.holds, SPModel.eval_and_iff, List.forall_mem_flatMap,
    List.forall_mem_map, List.mem_range, List.length_map, List.length_range]
  -- the weight requests range over the state variables; they count the combination once these have their values (`hS`)
  have hpos : ∀ ti ci, 0 < b.fresh + ti * c.combos.length + ci := fun _ _ =>
    Nat.add_pos_left (Nat.add_pos_left hfresh _) _
  refine (and_congr_left' ⟨fun H ti ci hti hci => ?_, fun H ti hti ci hci => ?_⟩).trans
    (and_congr_right fun hS => forall_congr' fun ci => imp_congr_right fun hci => ?_)
  · have := H ti hti ci hci
    rwa [getD_map_range _ _ _ _ hti, eval_state_iff p ρ c ci _ _ (hpos ti ci) hfac] at this
  · rw [getD_map_range _ _ _ _ hti, eval_state_iff p ρ c ci _ _ (hpos ti ci) hfac]
    exact H ti ci hti hci
  exact weightRequests_holds ρ _ _ _ _ _ _ hchunk
    fun ti hti => (litVal_natCast ρ _ (hpos ti ci)).trans (hS ti ci hti hci)

theorem applyCross_eq (p : PInput) (b : Backend) : applyCross p b = p.crossings.foldl (crossStep p) b := rfl

end SPModel.Pipeline
