-- Root of the proof library. Property theorems are under SPProofs/Properties.
import SPProofs.Card.Sem
import SPProofs.Card.Lemmas
import SPProofs.Properties.C12
import SPProofs.Properties.C10
import SPProofs.Logic.Lemmas
import SPProofs.Properties.C11
import SPProofs.Properties.C13
import SPProofs.Properties.C27
import SPProofs.Properties.C28
import SPProofs.Properties.C14
import SPProofs.Properties.C09
import SPProofs.Properties.C20
import SPProofs.Properties.C21
import SPProofs.Properties.C22
import SPProofs.Properties.C01
import SPProofs.Properties.C15
import SPProofs.Properties.C17
import SPProofs.Properties.C18
import SPProofs.Properties.C19
import SPProofs.Properties.C23
import SPProofs.Properties.C24
import SPProofs.Properties.C26
import SPProofs.Properties.C29
import SPProofs.Properties.C03
import SPProofs.Properties.C02
import SPProofs.Properties.C05
import SPProofs.Properties.C16
import SPProofs.Misc.Implied
import SPProofs.Pipeline.SeqMain
import SPProofs.SpecLemmas.Create
import SPProofs.SpecLemmas.CreateN
import SPProofs.Misc.C24Laws
import SPProofs.Properties.C25
import SPProofs.Pipeline.DeriveSimple
import SPProofs.Misc.Fill
